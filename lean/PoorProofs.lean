import PoorProofs.Props.C01
import PoorProofs.Props.C02
import PoorProofs.Props.C03
import PoorProofs.Props.C04
import PoorProofs.Props.C05
import PoorProofs.Props.C06
import PoorProofs.Props.C07
import PoorProofs.Props.C08
import PoorProofs.Props.C09
import PoorProofs.Props.C10
import PoorProofs.Props.C11
import PoorProofs.Props.C12
import PoorProofs.Props.C13
import PoorProofs.Props.C14
import PoorProofs.Props.C15
import PoorProofs.Props.C16
import PoorProofs.Props.C17
import PoorProofs.Props.C18
import PoorProofs.Props.C19
import PoorProofs.Props.C20
import PoorProofs.Props.PwFile
