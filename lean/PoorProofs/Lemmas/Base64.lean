import PoorModel.Base64
/-
C13: base64 as the session cookie uses it - `b64decode(b64encode(x)) = x` for every byte string
(the C decoder loop of CPython, non-strict mode).
-/
namespace Poor.Base64
open Poor

theorem decChar_encChar : ∀ i, i < 64 → decChar (encChar i) = some i := by decide +kernel

/-- the pad character is not in the alphabet: it decodes to nothing -/
theorem encChar_ne_pad (i : Nat) (hi : i < 64) : encChar i ≠ '=' := by
  intro e
  have h := decChar_encChar i hi
  rw [e, show decChar '=' = none by decide] at h
  cases h

theorem step_char {s : DSt} {i : Nat} (hi : i < 64) {rest : Str} :
    decodeFrom s (encChar i :: rest) =
      (if s.quad = 0 then decodeFrom { s with quad := 1, left := i, pads := 0 } rest
       else if s.quad = 1 then
         decodeFrom { quad := 2, left := i % 16, pads := 0, out := s.out ++ [UInt8.ofNat (s.left * 4 + i / 16)] } rest
       else if s.quad = 2 then
         decodeFrom { quad := 3, left := i % 4, pads := 0, out := s.out ++ [UInt8.ofNat (s.left * 16 + i / 4)] } rest
       else decodeFrom { quad := 0, left := 0, pads := 0, out := s.out ++ [UInt8.ofNat (s.left * 64 + i)] } rest) := by
  rw [decodeFrom]
  rw [if_neg (encChar_ne_pad i hi), decChar_encChar i hi]

/-- a byte `x` cut at `k`: its high part is in the decoder's register, its low part heads the next sextet above
    `y < j`; the decoder's `left * k + v / j` is the byte again and `v % j` is `y` -/
theorem recombine (x k j y : Nat) (hy : y < j) : x / k * k + (x % k * j + y) / j = x ∧ (x % k * j + y) % j = y := by
  rw [Nat.add_comm (x % k * j), Nat.add_mul_div_right _ _ (by omega), Nat.add_mul_mod_self_right, Nat.div_eq_of_lt hy,
    Nat.mod_eq_of_lt hy, Nat.zero_add, Nat.div_add_mod']
  exact ⟨rfl, rfl⟩

/-- the sextet made of the low part of a byte and `y < j` is in the alphabet's range -/
theorem sextet_lt (x k j y : Nat) (hk : 0 < k) (hy : y < j) : x % k * j + y < k * j := by
  refine Nat.lt_of_lt_of_le (Nat.add_lt_add_left hy _) ?_
  rw [← Nat.succ_mul]
  exact Nat.mul_le_mul_right j (Nat.mod_lt x hk)

/-- the first two sextets give back the first byte -/
theorem two_chars (o : Bytes) (p : Nat) (a : UInt8) (y : Nat) (hy : y < 16) (rest : Str) :
    decodeFrom { quad := 0, left := 0, pads := p, out := o } (encChar (a.toNat / 4) :: encChar (a.toNat % 4 * 16 + y) :: rest)
    = decodeFrom { quad := 2, left := y, pads := 0, out := o ++ [a] } rest := by
  rw [step_char (Nat.div_lt_of_lt_mul a.toNat_lt), if_pos rfl, step_char (sextet_lt _ 4 16 y (by decide) hy)]
  simp only [↓reduceIte, Nat.reduceEqDiff, recombine a.toNat 4 16 y hy, UInt8.ofNat_toNat]

theorem third_char (o : Bytes) (b : UInt8) (z : Nat) (hz : z < 4) (rest : Str) :
    decodeFrom { quad := 2, left := b.toNat / 16, pads := 0, out := o } (encChar (b.toNat % 16 * 4 + z) :: rest)
    = decodeFrom { quad := 3, left := z, pads := 0, out := o ++ [b] } rest := by
  rw [step_char (sextet_lt _ 16 4 z (by decide) hz)]
  simp only [↓reduceIte, Nat.reduceEqDiff, recombine b.toNat 16 4 z hz, UInt8.ofNat_toNat]

theorem fourth_char (o : Bytes) (c : UInt8) (rest : Str) :
    decodeFrom { quad := 3, left := c.toNat / 64, pads := 0, out := o } (encChar (c.toNat % 64) :: rest)
    = decodeFrom { quad := 0, left := 0, pads := 0, out := o ++ [c] } rest := by
  rw [step_char (Nat.mod_lt _ (by decide))]
  simp only [↓reduceIte, Nat.reduceEqDiff, Nat.div_add_mod', UInt8.ofNat_toNat]

/-- **base64 round trip**: decoding what `b64encode` produced gives back the bytes, from any quad boundary -/
theorem decodeFrom_encode (x : Bytes) : ∀ (o : Bytes) (p : Nat),
    decodeFrom { quad := 0, left := 0, pads := p, out := o } (encode x) = some (o ++ x) := by
  induction x using encode.induct with
  | case1 => intro o p; simp [encode, decodeFrom]
  | case2 a =>
    intro o p
    -- two pad characters end the input
    rw [encode, ← Nat.add_zero (a.toNat % 4 * 16), two_chars o p a 0 (by decide), decodeFrom, if_pos rfl, decodeFrom]
    simp
  | case3 a b =>
    intro o p
    rw [encode, two_chars o p a _ (Nat.div_lt_of_lt_mul b.toNat_lt), ← Nat.add_zero (b.toNat % 16 * 4),
      third_char _ b 0 (by decide), decodeFrom]
    simp
  | case4 a b c rest ih =>
    intro o p
    rw [encode, two_chars o p a _ (Nat.div_lt_of_lt_mul b.toNat_lt), third_char _ b _ (Nat.div_lt_of_lt_mul c.toNat_lt),
      fourth_char, ih]
    simp

theorem decode_encode (x : Bytes) : decode (encode x) = some x := by
  unfold decode
  have := decodeFrom_encode x [] 0
  simpa using this

theorem encode_isEmpty : ∀ x : Bytes, (encode x).isEmpty = x.isEmpty
  | [] | [_] | [_, _] | _ :: _ :: _ :: _ => rfl

end Poor.Base64
