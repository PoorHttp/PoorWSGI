import PoorModel.Date
/-
C18, HTTP dates.  The calendar: `_ord2ymd` finds the year that holds an ordinal and the day within it
(`ord2ymd_year_day`), so it answers with a date of the calendar that `_ymd2ord` takes back (`ord2ymd_spec`);
`_ymd2ord` keeps the order of dates (`ymd2ord_lt`), which gives the other inverse; a date lies within its year
(`ymd2ord_range`) and the years are in order (`dby_mono`), which bounds the year of an ordinal (`ord2ymd_year`).
The text: `http_to_time` accepts exactly the renderings of the civil times the format can carry
(`parse_render`, `parse_inv`), and seconds since 1970 and civil times are inverse (`timestampOf_civilOf`,
`civilW_timestampOf`).  In names, `dby`, `dbm` and `dim` are `daysBeforeYear`, `daysBeforeMonth`, `daysInMonth`.
-/
namespace Poor.Date

theorem monthDay_spec : ∀ (leap : Bool) (n : Nat), n < 366 → (n < 365 ∨ leap = true) →
    1 ≤ (monthDay leap n).1 ∧ (monthDay leap n).1 ≤ 12 ∧ 1 ≤ (monthDay leap n).2 ∧
    (monthDay leap n).2 ≤ daysInMonth leap (monthDay leap n).1 ∧
    daysBeforeMonth leap (monthDay leap n).1 + (monthDay leap n).2 = n + 1 := by
  decide +kernel

theorem isLeap_iff (y : Nat) : isLeap y = true ↔ 4 ∣ y ∧ (¬100 ∣ y ∨ 400 ∣ y) := by
  simp [isLeap, Nat.dvd_iff_mod_eq_zero]

/-- `daysBeforeYear` without the truncated subtraction -/
theorem dby_add (z : Nat) : daysBeforeYear (z + 1) + z / 100 = 365 * z + z / 4 + z / 400 := by
  simp only [daysBeforeYear, Nat.add_sub_cancel]
  omega

/-- days before the year that follows `400 a + 100 b + 4 c + d` full years -/
theorem dby_succ (a b c d : Nat) (hb : b ≤ 3) (hc : c ≤ 24) (hd : d ≤ 3) :
    daysBeforeYear (a * 400 + b * 100 + c * 4 + d + 1) = 146097 * a + 36524 * b + 1461 * c + 365 * d := by
  have := dby_add (a * 400 + b * 100 + c * 4 + d)
  omega

/-- `_ord2ymd`'s own leap test, `n1 == 3 and (n4 != 24 or n100 == 3)` on its 400/100/4/1 split of the years gone,
    is `isLeap` of the year it answers with -/
theorem leap_succ (a b c d : Nat) (hb : b ≤ 3) (hc : c ≤ 24) (hd : d ≤ 3) :
    isLeap (a * 400 + b * 100 + c * 4 + d + 1) = (d == 3 && (c != 24 || b == 3)) := by
  rw [Bool.eq_iff_iff, isLeap_iff]
  simp only [Bool.and_eq_true, Bool.or_eq_true, beq_iff_eq, bne_iff_ne, ne_eq]
  omega

structure ValidDate (y m d : Nat) : Prop where
  y1 : 1 ≤ y
  m1 : 1 ≤ m
  m12 : m ≤ 12
  d1 : 1 ≤ d
  dn : d ≤ daysInMonth (isLeap y) m

/-- the 400/100/4/1-year division overshoots (`b = 4` or `d = 4`) only on the last day of a 400-year
    or 4-year cycle: a 400-year cycle is four centuries and a day, a 4-year cycle four years and a day,
    while a century is 25 4-year cycles less a day -/
theorem decomp_cases {b c d r : Nat} (h100 : 36524 * b + (1461 * c + (365 * d + r)) < 146097)
    (h4 : 1461 * c + (365 * d + r) < 36524) (h1 : 365 * d + r < 1461) :
    b = 4 ∧ c = 0 ∧ d = 0 ∧ r = 0 ∨ b ≤ 3 ∧ c ≤ 23 ∧ d = 4 ∧ r = 0 ∨ b ≤ 3 ∧ c ≤ 24 ∧ d ≤ 3 := by
  omega

/-- names for a quotient and a remainder, with what `omega` is to know of them -/
theorem divmod_step (n k : Nat) (hk : 0 < k) : ∃ q m, n / k = q ∧ n % k = m ∧ k * q + m = n ∧ m < k :=
  ⟨_, _, rfl, rfl, Nat.div_add_mod n k, Nat.mod_lt n hk⟩

/-- `_ord2ymd` finds the year `y` that holds the day and the day's 0-based place `r` in it.
    Where the division overshoots, the code answers December 31st of the year before. -/
theorem ord2ymd_year_day (n : Nat) :
    ∃ y r, 1 ≤ y ∧ daysBeforeYear y + r = n ∧ r < 366 ∧ (r < 365 ∨ isLeap y = true) ∧
      ord2ymd (n + 1) = (y, monthDay (isLeap y) r) := by
  simp only [ord2ymd, Nat.add_sub_cancel]
  obtain ⟨a, n1, ea, ma, rfl, h100⟩ := divmod_step n 146097 (by decide)
  rw [ea, ma]
  obtain ⟨b, n2, eb, mb, rfl, h4⟩ := divmod_step n1 36524 (by decide)
  rw [eb, mb]
  obtain ⟨c, n3, ec, mc, rfl, h1⟩ := divmod_step n2 1461 (by decide)
  rw [ec, mc]
  obtain ⟨d, r, ed, md, rfl, hr⟩ := divmod_step n3 365 (by decide)
  rw [ed, md]
  -- else every `omega` below takes these eight equations between quotients and remainders in
  clear ea ma eb mb ec mc ed md
  rcases decomp_cases h100 h4 h1 with ⟨rfl, rfl, rfl, rfl⟩ | ⟨hb, hc, rfl, rfl⟩ | ⟨hb, hc, hd⟩ <;>
    clear h100 h4 h1
  · have hl := leap_succ a 3 24 3 (by decide) (by decide) (by decide)
    refine ⟨a * 400 + 3 * 100 + 24 * 4 + 3 + 1, 365, by omega, ?_, by decide, Or.inr hl, ?_⟩
    · have := dby_succ a 3 24 3 (by decide) (by decide) (by decide); omega
    · rw [hl, if_pos (by decide)]
      exact congrArg (·, 12, 31) (by omega)
  · have hl := leap_succ a b c 3 hb (by omega) (by decide)
    rw [show (c != 24) = true by simp only [bne_iff_ne, ne_eq]; omega] at hl
    refine ⟨a * 400 + b * 100 + c * 4 + 3 + 1, 365, Nat.le_add_left 1 _, ?_, by decide, Or.inr hl, ?_⟩
    · have := dby_succ a b c 3 hb (by omega) (by decide); omega
    · rw [hl, if_pos (by simp)]
      rfl
  · refine ⟨a * 400 + b * 100 + c * 4 + d + 1, r, Nat.le_add_left 1 _, ?_, Nat.lt_succ_of_lt hr, Or.inl hr, ?_⟩
    · have := dby_succ a b c d hb hc hd; omega
    · rw [leap_succ a b c d hb hc hd, if_neg]
      simp only [Bool.or_eq_true, beq_iff_eq]
      omega

theorem ord2ymd_spec (ord : Nat) (h : 1 ≤ ord) :
    ValidDate (ord2ymd ord).1 (ord2ymd ord).2.1 (ord2ymd ord).2.2 ∧
      ymd2ord (ord2ymd ord).1 (ord2ymd ord).2.1 (ord2ymd ord).2.2 = ord := by
  obtain ⟨n, rfl⟩ : ∃ n, ord = n + 1 := ⟨ord - 1, (Nat.sub_add_cancel h).symm⟩
  obtain ⟨y, r, hy, hn, hr, hl, he⟩ := ord2ymd_year_day n
  obtain ⟨m1, m12, d1, dn, hmd⟩ := monthDay_spec (isLeap y) r hr hl
  rw [he]
  exact ⟨⟨hy, m1, m12, d1, dn⟩, by simp only [ymd2ord]; omega⟩

/-- **calendar round trip**: `_ymd2ord(*_ord2ymd(n)) = n` for every ordinal -/
theorem ord_roundtrip (ord : Nat) (h : 1 ≤ ord) :
    ymd2ord (ord2ymd ord).1 (ord2ymd ord).2.1 (ord2ymd ord).2.2 = ord :=
  (ord2ymd_spec ord h).2

/-- what `_ord2ymd` returns is a date of the calendar -/
theorem ord2ymd_valid (ord : Nat) (h : 1 ≤ ord) :
    1 ≤ (ord2ymd ord).2.1 ∧ (ord2ymd ord).2.1 ≤ 12 ∧ 1 ≤ (ord2ymd ord).2.2 ∧
    (ord2ymd ord).2.2 ≤ daysInMonth (isLeap (ord2ymd ord).1) (ord2ymd ord).2.1 :=
  have hv := (ord2ymd_spec ord h).1
  ⟨hv.m1, hv.m12, hv.d1, hv.dn⟩

/-! ### years and dates in order -/

/-- the leap-year rule, counted: a multiple of 4 brings a leap day, a multiple of 100 takes it away,
    a multiple of 400 brings it back -/
theorem leap_rule (y : Nat) :
    (if isLeap y = true then 366 else 365) + (if 100 ∣ y then 1 else 0)
      = 365 + (if 4 ∣ y then 1 else 0) + (if 400 ∣ y then 1 else 0) := by
  simp only [isLeap_iff]
  by_cases h400 : 400 ∣ y
  · have h100 : 100 ∣ y := Nat.dvd_trans (by decide) h400
    have h4 : 4 ∣ y := Nat.dvd_trans (by decide) h100
    simp only [h4, h100, h400, if_true, and_true, or_true]
  · by_cases h100 : 100 ∣ y
    · have h4 : 4 ∣ y := Nat.dvd_trans (by decide) h100
      simp only [h4, h100, h400, if_true, if_false, not_true, or_false, and_false]
    · by_cases h4 : 4 ∣ y
      · simp only [h4, h100, h400, if_true, if_false, not_false_eq_true, true_or, and_true]
      · simp only [h4, h100, h400, if_false, false_and]

theorem dby_step (y : Nat) (h : 1 ≤ y) :
    daysBeforeYear (y + 1) = daysBeforeYear y + (if isLeap y = true then 366 else 365) := by
  obtain ⟨z, rfl⟩ : ∃ z, y = z + 1 := ⟨y - 1, (Nat.sub_add_cancel h).symm⟩
  have h1 := dby_add z
  have h2 := dby_add (z + 1)
  -- each of the three quotients goes up by one exactly at a multiple
  rw [Nat.succ_div, Nat.succ_div, Nat.succ_div] at h2
  have h3 := leap_rule (z + 1)
  omega

theorem dby_mono {y y' : Nat} (h : y ≤ y') : daysBeforeYear y ≤ daysBeforeYear y' := by
  induction h with
  | refl => exact Nat.le_refl _
  | @step m _ ih =>
    refine Nat.le_trans ih ?_
    cases m with
    | zero => decide
    | succ k => rw [dby_step (k + 1) (by omega)]; exact Nat.le_add_right _ _

theorem dbm_dim_le : ∀ (leap : Bool) (m : Nat), m < 13 → 1 ≤ m → ∀ m', m' < 13 → m < m' →
    daysBeforeMonth leap m + daysInMonth leap m ≤ daysBeforeMonth leap m' := by
  decide +kernel

theorem dbm_dim_year : ∀ (leap : Bool) (m : Nat), m < 13 → 1 ≤ m →
    daysBeforeMonth leap m + daysInMonth leap m ≤ (if leap = true then 366 else 365) := by
  decide

theorem ymd2ord_range {y m d : Nat} (h : ValidDate y m d) :
    daysBeforeYear y < ymd2ord y m d ∧ ymd2ord y m d ≤ daysBeforeYear (y + 1) := by
  have hb := dbm_dim_year (isLeap y) m (Nat.lt_succ_of_le h.m12) h.m1
  have := h.d1; have := h.dn
  rw [dby_step y h.y1]
  unfold ymd2ord
  omega

theorem ymd2ord_lt {y m d y' m' d' : Nat} (h : ValidDate y m d) (h' : ValidDate y' m' d')
    (hlt : y < y' ∨ y = y' ∧ (m < m' ∨ m = m' ∧ d < d')) : ymd2ord y m d < ymd2ord y' m' d' := by
  rcases hlt with hy | ⟨rfl, hm | ⟨rfl, hd⟩⟩
  · have := (ymd2ord_range h).2
    have := (ymd2ord_range h').1
    have := dby_mono (show y + 1 ≤ y' from hy)
    omega
  · have := dbm_dim_le (isLeap y) m (by have := h'.m12; omega) h.m1 m' (Nat.lt_succ_of_le h'.m12) hm
    have := h.dn; have := h'.d1
    unfold ymd2ord; omega
  · unfold ymd2ord; omega

theorem ymd2ord_inj {y m d y' m' d' : Nat} (h : ValidDate y m d) (h' : ValidDate y' m' d')
    (he : ymd2ord y m d = ymd2ord y' m' d') : y = y' ∧ m = m' ∧ d = d' := by
  have h1 : ¬_ := fun hlt => Nat.ne_of_lt (ymd2ord_lt h h' hlt) he
  have h2 : ¬_ := fun hlt => Nat.ne_of_lt (ymd2ord_lt h' h hlt) he.symm
  omega

/-- **the other inverse**: `_ord2ymd(_ymd2ord(y, m, d)) = (y, m, d)` for every date of the calendar -/
theorem ymd_roundtrip (y m d : Nat) (h : ValidDate y m d) : ord2ymd (ymd2ord y m d) = (y, m, d) := by
  obtain ⟨hv, he⟩ := ord2ymd_spec (ymd2ord y m d) (Nat.lt_of_le_of_lt (Nat.zero_le _) (ymd2ord_range h).1)
  obtain ⟨h1, h2, h3⟩ := ymd2ord_inj hv h he
  exact Prod.ext h1 (Prod.ext h2 h3)

theorem dby_1970 : daysBeforeYear 1970 + 1 = EPOCH_ORD := by decide

theorem epoch_pos : 1 ≤ EPOCH_ORD := by decide

/-- ordinals of 1970-01-01 .. 9999-12-31 have four-digit years from 1970 on -/
theorem ord2ymd_year (ord : Nat) (h1 : EPOCH_ORD ≤ ord) (h2 : ord ≤ 3652059) :
    1970 ≤ (ord2ymd ord).1 ∧ (ord2ymd ord).1 ≤ 9999 := by
  obtain ⟨hv, he⟩ := ord2ymd_spec ord (Nat.le_trans epoch_pos h1)
  have hr := ymd2ord_range hv
  rw [he, ← dby_1970] at *
  have h10000 : daysBeforeYear 10000 = 3652059 := by decide
  constructor
  · apply Nat.le_of_not_lt; intro hc
    have := dby_mono (show (ord2ymd ord).1 + 1 ≤ 1970 from hc); omega
  · apply Nat.le_of_not_lt; intro hc
    have := dby_mono (show 10000 ≤ (ord2ymd ord).1 from hc); omega

/-! ### the text: digits, names, `render` and `http_to_time` -/

theorem digit_mod (n : Nat) : digit (n % 10) = digit n := by
  unfold digit; rw [Nat.mod_mod]

theorem digitVal_eq_some {c : Char} {n : Nat} : digitVal c = some n ↔ n < 10 ∧ c = digit n := by
  constructor
  · intro h
    unfold digitVal at h
    split at h
    · rename_i hc
      cases h
      have h0 : 48 ≤ c.toNat := hc.1
      have h9 : c.toNat ≤ 57 := hc.2
      refine ⟨by omega, ?_⟩
      unfold digit
      rw [show 48 + (c.toNat - 48) % 10 = c.toNat by omega]
      exact (Char.ofNat_toNat c).symm
    · cases h
  · rintro ⟨h, rfl⟩
    revert n
    decide

/-- the two digits of `x * b + y` to the base `b` -/
theorem divmod_digits {b x y : Nat} (hy : y < b) : (x * b + y) / b = x ∧ (x * b + y) % b = y :=
  (Nat.div_mod_unique (Nat.zero_lt_of_lt hy)).2 ⟨by rw [Nat.add_comm, Nat.mul_comm], hy⟩

theorem num2_eq_some {a b : Char} {n : Nat} : num2 a b = some n ↔ n < 100 ∧ [a, b] = pad2 n := by
  simp only [num2, bind, Option.bind_eq_some_iff, pure, Option.some.injEq, digitVal_eq_some, pad2,
    List.cons.injEq, and_true]
  constructor
  · rintro ⟨x, ⟨hx, rfl⟩, y, ⟨hy, rfl⟩, rfl⟩
    refine ⟨by omega, ?_, ?_⟩
    · rw [(divmod_digits hy).1]
    · rw [← digit_mod (x * 10 + y), (divmod_digits hy).2]
  · rintro ⟨h, rfl, rfl⟩
    exact ⟨n / 10, ⟨Nat.div_lt_of_lt_mul h, rfl⟩, n % 10, ⟨Nat.mod_lt _ (by decide), (digit_mod n).symm⟩,
      Nat.div_add_mod' n 10⟩

theorem pad4_eq (n : Nat) : pad4 n = pad2 (n / 100) ++ pad2 (n % 100) := by
  have e1 : n / 100 / 10 = n / 1000 := Nat.div_div_eq_div_mul n 100 10
  have e2 : n % 100 / 10 % 10 = n / 10 % 10 := by rw [Nat.mod_mul_right_div_self n 10 10, Nat.mod_mod]
  have e3 : n % 100 % 10 = n % 10 := Nat.mod_mod_of_dvd n (by decide)
  simp only [pad4, pad2, digit, e1, e2, e3, List.cons_append, List.nil_append]

theorem num4_eq_some {a b c d : Char} {n : Nat} :
    num4 a b c d = some n ↔ n < 10000 ∧ [a, b, c, d] = pad4 n := by
  simp only [num4, bind, Option.bind_eq_some_iff, pure, Option.some.injEq, num2_eq_some, pad4_eq]
  constructor
  · rintro ⟨x, ⟨hx, hab⟩, y, ⟨hy, hcd⟩, rfl⟩
    rw [(divmod_digits hy).1, (divmod_digits hy).2, ← hab, ← hcd]
    exact ⟨by omega, rfl⟩
  · rintro ⟨h, he⟩
    have hl : (pad2 (n / 100)).length = 2 := rfl
    obtain ⟨h1, h2⟩ := List.append_inj (s₁ := [a, b]) (t₁ := [c, d]) he rfl
    exact ⟨n / 100, ⟨Nat.div_lt_of_lt_mul h, h1⟩, n % 100, ⟨Nat.mod_lt _ (by decide), h2⟩, Nat.div_add_mod' n 100⟩

theorem dayName_spec : ∀ w, w < 7 → (dayNames.getD w []).length = 3 ∧ nameIdx dayNames (dayNames.getD w []) = some w := by
  decide +kernel

theorem monthName_spec : ∀ m, m < 12 →
    (monthNames.getD m []).length = 3 ∧ nameIdx monthNames (monthNames.getD m []) = some m := by
  decide +kernel

theorem len3 {α} (l : List α) (h : l.length = 3) : ∃ a b c, l = [a, b, c] := by
  match l, h with
  | [a, b, c], _ => exact ⟨a, b, c, rfl⟩

theorem nameIdx_getD (names : List Str) (s : Str) (i : Nat) (h : nameIdx names s = some i) :
    i < names.length ∧ names.getD i [] = s := by
  unfold nameIdx at h
  simp only at h
  split at h
  · rename_i hlt
    cases h
    refine ⟨hlt, ?_⟩
    have := List.findIdx_getElem (w := hlt)
    simp only [beq_iff_eq] at this
    simp only [List.getD_eq_getElem?_getD, List.getElem?_eq_getElem hlt, Option.getD_some]
    exact this
  · cases h

/-- a civil time that the format can carry: a date of the calendar with a four-digit year from 1970 on,
    a time of day, a day of the week -/
structure CivilOK (c : Civil) : Prop where
  date : ValidDate c.year c.month c.day
  y1970 : 1970 ≤ c.year
  y9999 : c.year ≤ 9999
  hour : c.hour < 24
  minute : c.minute < 60
  second : c.second < 60
  wday : c.wday < 7

theorem render_shape (c : Civil) {w1 w2 w3 m1 m2 m3 : Char} (hw : dayNames.getD c.wday [] = [w1, w2, w3])
    (hm : monthNames.getD (c.month - 1) [] = [m1, m2, m3]) :
    render c = [w1, w2, w3, ',', ' ', digit (c.day / 10), digit c.day, ' ', m1, m2, m3, ' ',
      digit (c.year / 1000), digit (c.year / 100), digit (c.year / 10), digit c.year, ' ',
      digit (c.hour / 10), digit c.hour, ':', digit (c.minute / 10), digit c.minute, ':',
      digit (c.second / 10), digit c.second, ' ', 'G', 'M', 'T'] := by
  -- not `simp only [render, ..]`: for that Lean makes the equation `render.eq_1` and tests whether it holds by `rfl`
  -- at reducible transparency, which fails only after a long `whnf` of the nested `++`.  `unfold` makes no equation
  unfold render
  simp only [hw, hm, pad2, pad4, List.cons_append, List.nil_append]

theorem render_length {c : Civil} (ok : CivilOK c) : (render c).length = 29 := by
  obtain ⟨w1, w2, w3, hw⟩ := len3 _ (dayName_spec c.wday ok.wday).1
  obtain ⟨m1, m2, m3, hm⟩ := len3 _ (monthName_spec (c.month - 1) (by have := ok.date.m1; have := ok.date.m12; omega)).1
  rw [render_shape c hw hm]
  rfl

/-- the checks of `http_to_time` on the fields it has read -/
theorem range_checks {ss y d dim hh mm T t : Nat} :
    (if ss ≥ 60 then PRes.unsupported else if y < 1970 then .unsupported
      else if d = 0 ∨ d > dim ∨ hh ≥ 24 ∨ mm ≥ 60 then .error else .ok T) = .ok t ↔
    ss < 60 ∧ 1970 ≤ y ∧ 1 ≤ d ∧ d ≤ dim ∧ hh < 24 ∧ mm < 60 ∧ T = t := by
  constructor
  · intro h
    split at h
    · cases h
    split at h
    · cases h
    split at h
    · cases h
    cases h
    omega
  · rintro ⟨h1, h2, h3, h4, h5, h6, rfl⟩
    rw [if_neg (by omega), if_neg (by omega), if_neg (by omega)]

theorem parse_render {c : Civil} (ok : CivilOK c) :
    httpToTime (render c) = .ok (timestampOf c.year c.month c.day c.hour c.minute c.second) := by
  have hm12 := ok.date.m12
  obtain ⟨hwl, hwi⟩ := dayName_spec c.wday ok.wday
  obtain ⟨hml, hmi⟩ := monthName_spec (c.month - 1) (by omega)
  obtain ⟨w1, w2, w3, hw⟩ := len3 _ hwl
  obtain ⟨m1, m2, m3, hm⟩ := len3 _ hml
  have hd31 : c.day ≤ 31 := Nat.le_trans ok.date.dn (by unfold daysInMonth; split <;> (try split) <;> decide)
  rw [hw] at hwi
  rw [hm] at hmi
  rw [render_shape c hw hm]
  simp only [httpToTime]
  rw [hwi, hmi, num2_eq_some.2 ⟨Nat.lt_of_le_of_lt hd31 (by decide), rfl⟩,
    num4_eq_some.2 ⟨Nat.lt_succ_of_le ok.y9999, rfl⟩, num2_eq_some.2 ⟨Nat.lt_trans ok.hour (by decide), rfl⟩,
    num2_eq_some.2 ⟨Nat.lt_trans ok.minute (by decide), rfl⟩, num2_eq_some.2 ⟨Nat.lt_trans ok.second (by decide), rfl⟩]
  simp only [Nat.sub_add_cancel ok.date.m1]
  exact range_checks.2 ⟨ok.second, ok.y1970, ok.date.d1, ok.date.dn, ok.hour, ok.minute, rfl⟩

theorem parse_inv {s : Str} {t : Nat} (h : httpToTime s = .ok t) :
    ∃ c, CivilOK c ∧ s = render c ∧ t = timestampOf c.year c.month c.day c.hour c.minute c.second := by
  unfold httpToTime at h
  split at h
  · rename_i w1 w2 w3 d1 d2 m1 m2 m3 y1 y2 y3 y4 h1 h2 n1 n2 s1 s2
    split at h
    · rename_i wi mi d y hh mm ss hw hm hd hy hh' hmm hss
      obtain ⟨hs60, hy70, hd1, hdn, h24, h60, rfl⟩ := range_checks.1 h
      obtain ⟨hwl, hwe⟩ := nameIdx_getD dayNames _ wi hw
      obtain ⟨hml, hme⟩ := nameIdx_getD monthNames _ mi hm
      obtain ⟨_, hde⟩ := num2_eq_some.1 hd
      obtain ⟨hy4, hye⟩ := num4_eq_some.1 hy
      obtain ⟨_, hhe⟩ := num2_eq_some.1 hh'
      obtain ⟨_, hne⟩ := num2_eq_some.1 hmm
      obtain ⟨_, hse⟩ := num2_eq_some.1 hss
      cases hde; cases hye; cases hhe; cases hne; cases hse
      have hv : ValidDate y (mi + 1) d := ⟨Nat.le_trans (by decide) hy70, Nat.succ_pos mi, hml, hd1, hdn⟩
      exact ⟨⟨y, mi + 1, d, hh, mm, ss, wi⟩, ⟨hv, hy70, Nat.le_of_lt_succ hy4, h24, h60, hs60, hwl⟩,
        (render_shape ⟨y, mi + 1, d, hh, mm, ss, wi⟩ hwe hme).symm, rfl⟩
    · cases h
  · cases h

/-! ### seconds since 1970 and civil times -/

/-- the last second of year 9999, plus one -/
def T_MAX : Nat := 253402300800

/-- the civil time of `t` with the day name replaced (the parser does not cross-check the day name) -/
def civilW (t w : Nat) : Civil :=
  ⟨(civilOf t).year, (civilOf t).month, (civilOf t).day, (civilOf t).hour, (civilOf t).minute, (civilOf t).second, w⟩

theorem civilFrom_ok {ymd : Nat × Nat × Nat} {s : Nat} (ord : Nat) (hv : ValidDate ymd.1 ymd.2.1 ymd.2.2)
    (hy : 1970 ≤ ymd.1 ∧ ymd.1 ≤ 9999) (hs : s < 86400) : CivilOK (civilFrom ymd s ord) :=
  ⟨hv, hy.1, hy.2, Nat.div_lt_of_lt_mul hs, Nat.div_lt_of_lt_mul (Nat.mod_lt _ (by decide)),
    Nat.mod_lt _ (by decide), Nat.mod_lt _ (by decide)⟩

theorem civilOf_ok (t : Nat) (h : t < T_MAX) : CivilOK (civilOf t) :=
  have ho : EPOCH_ORD ≤ t / 86400 + EPOCH_ORD := Nat.le_add_left _ _
  civilFrom_ok _ (ord2ymd_spec _ (Nat.le_trans epoch_pos ho)).1
    (ord2ymd_year _ ho (by unfold T_MAX at h; unfold EPOCH_ORD; omega)) (Nat.mod_lt _ (by decide))

/-- `timestamp` after `fromtimestamp`, with the date a variable.  At the concrete date the kernel cannot check
    `(civilOf t).year = (ord2ymd (t / 86400 + EPOCH_ORD)).1`, by `rfl` or by what `simp only [civilOf, civilFrom]`
    builds: it evaluates `ord2ymd` at `_ + 719163` until "deep recursion" -/
theorem timestampOf_civilFrom (ymd : Nat × Nat × Nat) (s ord : Nat) :
    timestampOf (civilFrom ymd s ord).year (civilFrom ymd s ord).month (civilFrom ymd s ord).day
      (civilFrom ymd s ord).hour (civilFrom ymd s ord).minute (civilFrom ymd s ord).second
      = (ymd2ord ymd.1 ymd.2.1 ymd.2.2 - EPOCH_ORD) * 86400 + s / 3600 * 3600 + s % 3600 / 60 * 60 + s % 60 :=
  rfl

theorem timestampOf_civilOf (t : Nat) :
    timestampOf (civilOf t).year (civilOf t).month (civilOf t).day (civilOf t).hour (civilOf t).minute
      (civilOf t).second = t := by
  unfold civilOf
  rewrite [timestampOf_civilFrom, ord_roundtrip _ (Nat.le_trans epoch_pos (Nat.le_add_left _ _)),
    Nat.add_sub_cancel]
  omega

theorem civilW_timestampOf {c : Civil} (ok : CivilOK c) :
    civilW (timestampOf c.year c.month c.day c.hour c.minute c.second) c.wday = c := by
  obtain ⟨y, m, d, hh, mm, ss, w⟩ := c
  obtain ⟨hv, hy, _, h24, h60, s60, _⟩ := ok
  simp only at hv hy h24 h60 s60 ⊢
  have hm : mm * 60 + ss < 3600 := by omega
  have hs : hh * 3600 + (mm * 60 + ss) < 86400 := by omega
  have he : EPOCH_ORD ≤ ymd2ord y m d := by
    have h1 := (ymd2ord_range hv).1
    have h2 := dby_mono hy
    have h3 := dby_1970
    omega
  -- days since 1970, hour, minute and second are the digits of the timestamp to the bases 86400, 3600, 60
  obtain ⟨e1, e2⟩ := divmod_digits (x := mm) s60
  obtain ⟨e3, e4⟩ := divmod_digits (x := hh) hm
  obtain ⟨e5, e6⟩ := divmod_digits (x := ymd2ord y m d - EPOCH_ORD) hs
  have e7 : (hh * 3600 + (mm * 60 + ss)) % 60 = ss := by
    rw [← Nat.mod_mod_of_dvd _ (show 60 ∣ 3600 by decide), e4, e2]
  simp only [civilW, civilOf, timestampOf, Nat.add_assoc]
  rewrite [e5, e6, Nat.sub_add_cancel he, ymd_roundtrip y m d hv]
  simp only [civilFrom, e1, e3, e4, e7]

end Poor.Date
