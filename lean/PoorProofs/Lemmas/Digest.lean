import PoorModel.Digest
import PoorProofs.Lemmas.HeaderValue
import PoorProofs.Lemmas.Scan
import PoorProofs.Lemmas.Transcode
/-
Lemmas for property C11: from the text of an Authorization header, as an RFC 7616 client writes it, to the
parsed credentials.  Three steps: the tokenizer (`Scans s toks` hides the fuel of `scanAuthF`; one lemma per
kind of step), the dictionary `Request.authorization` builds from the tokens (`authDict_of_scan`), and the
client's ten fields (`fieldNames`: evaluating the `toList` of a string literal is dear, so the names are
unpacked and compared once, in `fieldNames_ok`, and every lookup goes through `dget_of_mem`).
-/
namespace Poor.Digest
open Poor

theorem dget_of_mem {d : Dict} (hnd : (d.map (·.1)).Nodup) {k : String} {v : Str} (h : (k.toList, v) ∈ d) :
    dget d k = some v := by
  unfold dget
  induction d with
  | nil => cases h
  | cons e t ih =>
    rw [List.map_cons, List.nodup_cons] at hnd
    rw [List.find?_cons]
    rcases List.mem_cons.1 h with rfl | ht
    · simp
    · have : (e.1 == k.toList) = false :=
        beq_eq_false_iff_ne.2 fun he => hnd.1 (he ▸ List.mem_map.2 ⟨_, ht, rfl⟩)
      rw [this]
      exact ih hnd.2 ht

theorem dget_eq_none {d : Dict} {k : String} (h : k.toList ∉ d.map (·.1)) : dget d k = none := by
  unfold dget
  rw [List.find?_eq_none.2 fun e he heq => h (List.mem_map.2 ⟨e, he, by simpa using heq⟩)]
  rfl

theorem nodup_map_toList {l : List String} (h : l.Nodup) : (l.map String.toList).Nodup :=
  List.pairwise_map.2 (h.imp fun hab e => hab (String.toList_inj.1 e))

/-- `key="value"` as a client writes it -/
def renderField (k v : Str) : Str := k ++ '=' :: '"' :: v ++ ['"']

def renderFields : List (Str × Str) → Str
  | [] => []
  | [kv] => renderField kv.1 kv.2
  | kv :: kv' :: rest => renderField kv.1 kv.2 ++ ',' :: ' ' :: renderFields (kv' :: rest)

/-- `Digest k1="v1", k2="v2", ...` -/
def renderAuth (fs : List (Str × Str)) : Str := "Digest ".toList ++ renderFields fs

/-- what makes `key="value"` one match of `RE_AUTHORIZATION` (request.py; `matchAt`) that ends at the closing quote:
    the key a `\w+` for the first group `(\w+\*?)`, the value a `[^"]+` for the quoted alternative `"[^"]+"` of the second -/
def FieldOK (kv : Str × Str) : Prop :=
  kv.1 ≠ [] ∧ (∀ c ∈ kv.1, isWord c = true) ∧ kv.2 ≠ [] ∧ '"' ∉ kv.2

theorem matchAt_field (k v rest : Str) (h : FieldOK (k, v)) :
    matchAt (renderField k v ++ rest) = some (k, '"' :: v ++ ['"'], (renderField k v).length) := by
  obtain ⟨hk, hw, hv, hq⟩ := h
  have e : renderField k v ++ rest = k ++ '=' :: '"' :: (v ++ '"' :: rest) := by simp [renderField]
  obtain ⟨h1, h2⟩ := List.span_ne_append_cons (a := v) (c := '"') (fun c hc e => hq (e ▸ hc)) rest
  have hw' : isWord '=' = false := by decide
  rw [e, matchAt, List.takeWhile_append_cons hw hw', List.dropWhile_append_cons hw hw']
  simp [hk, hv, h1, h2, renderField]
  omega

theorem matchAt_nonword {c : Char} (cs : Str) (hc : isWord c = false) : matchAt (c :: cs) = none := by
  unfold matchAt
  simp [List.takeWhile, hc]

/-- `toks` is what `RE_AUTHORIZATION.findall` returns on `s`: the scan yields it for any fuel the text fits in -/
def Scans (s : Str) (toks : List (Str × Str)) : Prop := ∀ f, s.length ≤ f → scanAuthF f s = toks

theorem Scans.nil : Scans [] [] := fun f _ => by cases f <;> rfl

theorem Scans.skip {c : Char} {rest : Str} {toks : List (Str × Str)} (hm : matchAt (c :: rest) = none)
    (h : Scans rest toks) : Scans (c :: rest) toks := by
  intro f hf
  cases f with
  | zero => cases hf
  | succ g =>
    rw [scanAuthF, hm]
    exact h g (Nat.le_of_succ_le_succ hf)

/-- a word that is not followed by `=` (the scheme) yields no field -/
theorem Scans.word {w rest : Str} {toks : List (Str × Str)} (hw : ∀ c ∈ w, isWord c = true)
    (h : Scans rest toks) : Scans (w ++ ' ' :: rest) toks := by
  induction w with
  | nil => exact .skip (matchAt_nonword rest (by decide)) h
  | cons c t ih =>
    have hsp : isWord ' ' = false := by decide
    have hm : matchAt ((c :: t) ++ ' ' :: rest) = none := by
      rw [matchAt, List.takeWhile_append_cons hw hsp, List.dropWhile_append_cons hw hsp]
      simp
    exact .skip hm (ih fun x hx => hw x (List.mem_cons_of_mem _ hx))

theorem Scans.field {k v rest : Str} {toks : List (Str × Str)} (hkv : FieldOK (k, v)) (h : Scans rest toks) :
    Scans (renderField k v ++ rest) ((k, '"' :: v ++ ['"']) :: toks) := by
  intro f hf
  have hne : (renderField k v ++ rest).isEmpty = false := by simp [renderField]
  cases f with
  | zero => simp [renderField] at hf
  | succ g =>
    rw [scanAuthF, hne, matchAt_field k v rest hkv]
    simpa using h g (by simp [renderField] at hf; omega)

theorem Scans.fields (fs : List (Str × Str)) (h : ∀ kv ∈ fs, FieldOK kv) :
    Scans (renderFields fs) (fs.map fun kv => (kv.1, '"' :: kv.2 ++ ['"'])) := by
  induction fs with
  | nil => exact .nil
  | cons kv t ih =>
    have hkv := h kv List.mem_cons_self
    have ih := ih fun x hx => h x (List.mem_cons_of_mem _ hx)
    cases t with
    | nil => simpa [renderFields] using Scans.field hkv .nil
    | cons kv' t' =>
      -- one turn for the field, one each for the comma and the blank
      exact .field hkv (.skip (matchAt_nonword _ (by decide)) (.skip (matchAt_nonword _ (by decide)) ih))

/-- the scheme unpacked once: `Scans.word`, `takeWhile` and `getLast?` below walk over it character by character,
    and `"Digest ".toList` shows no `::` until it is evaluated -/
theorem renderAuth_eq (fs : List (Str × Str)) :
    renderAuth fs = ['D', 'i', 'g', 'e', 's', 't'] ++ ' ' :: renderFields fs := by
  unfold renderAuth
  simp only [String.reduceToList]
  rfl

/-- **the tokenizer on a header as a client writes it**, for any fuel the text fits in -/
theorem scanAuthF_render (fs : List (Str × Str)) (h : ∀ kv ∈ fs, FieldOK kv) (f : Nat)
    (hf : (renderAuth fs).length ≤ f) :
    scanAuthF f (renderAuth fs) = fs.map fun kv => (kv.1, '"' :: kv.2 ++ ['"']) := by
  rw [renderAuth_eq] at hf ⊢
  exact Scans.word (by decide) (.fields fs h) f hf

theorem renderFields_last (fs : List (Str × Str)) (hne : fs ≠ []) : ∃ pre, renderFields fs = pre ++ ['"'] := by
  induction fs with
  | nil => exact absurd rfl hne
  | cons kv t ih =>
    cases t with
    | nil => exact ⟨kv.1 ++ '=' :: '"' :: kv.2, rfl⟩
    | cons kv' t' =>
      obtain ⟨pre, e⟩ := ih (List.cons_ne_nil _ _)
      exact ⟨renderField kv.1 kv.2 ++ ',' :: ' ' :: pre, by rw [renderFields, e]; simp⟩

theorem strip_renderAuth (fs : List (Str × Str)) (hne : fs ≠ []) :
    HeaderValue.strip (renderAuth fs) = renderAuth fs := by
  obtain ⟨pre, e⟩ := renderFields_last fs hne
  have hlast : (renderAuth fs).getLast? = some '"' := by
    rw [renderAuth_eq, e, ← List.cons_append, ← List.append_assoc, List.getLast?_concat]
  exact HeaderValue.strip_of_ends (by rw [renderAuth_eq]; rintro _ ⟨⟩; decide) (by rw [hlast]; rintro _ ⟨⟩; decide)

theorem scheme_renderAuth (fs : List (Str × Str)) : capitalize (schemeOf (renderAuth fs)) = "Digest".toList := by
  have hc : (renderAuth fs).contains ' ' = true := by simp [renderAuth_eq]
  rw [schemeOf, hc, if_pos rfl, renderAuth_eq, List.takeWhile_append_cons (by decide) rfl]
  decide

theorem foldl_dictSet_map (g : Str → Str) (l : List (Str × Str)) (acc : List (Str × Str))
    (hnd : ((acc ++ l).map (·.1)).Nodup) :
    l.foldl (fun d kv => HeaderValue.dictSet d kv.1 (g kv.2)) acc = acc ++ l.map (fun kv => (kv.1, g kv.2)) := by
  rw [← HeaderValue.foldl_dictSet_new acc (l.map fun kv => (kv.1, g kv.2))
    (by simpa [List.map_map, Function.comp_def] using hnd), List.foldl_map]

/-- `Request.authorization` on tokens with distinct names, none of them one of the two it adds or rewrites:
    every token in the order scanned, its value unquoted and transcoded, then the scheme -/
theorem authDict_of_scan {hdr : Str} {toks : List (Str × Str)} (hs : scanAuth (HeaderValue.strip hdr) = toks)
    (hnd : (toks.map (·.1) ++ ["type".toList, "username*".toList]).Nodup) :
    authDict hdr = some (toks.map (fun kv => (kv.1, Headers.utf8 (stripQuotes kv.2))) ++
      [("type".toList, capitalize (schemeOf (HeaderValue.strip hdr)))]) := by
  obtain ⟨hnd1, -, hnew⟩ := List.nodup_append.1 hnd
  have hkeys : (toks.map fun kv => (kv.1, Headers.utf8 (stripQuotes kv.2))).map (·.1) = toks.map (·.1) :=
    List.map_map
  unfold authDict
  simp only [hs]
  rw [foldl_dictSet_map (fun v => Headers.utf8 (stripQuotes v)) toks [] hnd1, List.nil_append,
    HeaderValue.dictSet_new _ (hkeys ▸ fun hm => hnew _ hm _ List.mem_cons_self rfl),
    dget_eq_none (by
      rw [List.map_append, hkeys, List.mem_append, not_or]
      exact ⟨fun hm => hnew _ hm _ (List.mem_cons_of_mem _ List.mem_cons_self) rfl, by simp⟩)]

theorem stripQuotes_quoted (v : Str) (hq : '"' ∉ v) : stripQuotes ('"' :: v ++ ['"']) = v := by
  have hv : ∀ x, x ∈ v → (x == '"') = false := fun x hx => by simpa using fun e : x = '"' => hq (e ▸ hx)
  exact (List.strip_append_all (a := ['"']) (b := ['"']) v (by decide) (by decide)).trans
    (List.strip_eq_self (fun x hx => hv x (List.mem_of_mem_head? hx)) (fun x hx => hv x (List.mem_of_getLast? hx)))

/-- **the parsed credentials of a header as a client writes it**: every field with its value
    transcoded back from the wire form, and the scheme -/
theorem authDict_render (fs : List (Str × Str)) (hne : fs ≠ []) (h : ∀ kv ∈ fs, FieldOK kv)
    (hnd : (fs.map (·.1) ++ ["type".toList, "username*".toList]).Nodup) :
    authDict (renderAuth fs) =
      some (fs.map (fun kv => (kv.1, Headers.utf8 kv.2)) ++ [("type".toList, "Digest".toList)]) := by
  have hscan : scanAuth (HeaderValue.strip (renderAuth fs)) = fs.map fun kv => (kv.1, '"' :: kv.2 ++ ['"']) := by
    rw [strip_renderAuth fs hne]
    exact scanAuthF_render fs h _ (Nat.le_refl _)
  rw [authDict_of_scan hscan (by rwa [List.map_map]), strip_renderAuth fs hne, scheme_renderAuth, List.map_map,
    List.map_congr_left fun kv hkv => by rw [Function.comp_apply, stripQuotes_quoted kv.2 (h kv hkv).2.2.2]]

/-- the ten fields of an RFC 7616 client in the form they travel in: UTF-8 bytes as latin-1 -/
def wireFields (H : Str → Str) (app : App) (m : Str) (c : Client) : List (Str × Str) :=
  ((clientDict H app m c).dropLast).map fun kv => (kv.1, Headers.iso kv.2)

def fieldNames : List String :=
  ["username", "realm", "nonce", "uri", "algorithm", "response", "opaque", "qop", "nc", "cnonce"]

/-- what the tokenizer and the dictionary need of the names: distinct, none of them one of the two names
    `Request.authorization` adds or rewrites, made of word characters -/
theorem fieldNames_ok : (fieldNames ++ ["type", "username*"]).Nodup ∧
    ∀ k ∈ fieldNames.map String.toList, k ≠ [] ∧ ∀ ch ∈ k, isWord ch = true := by decide +kernel

theorem clientDict_keys (H : Str → Str) (app : App) (m : Str) (c : Client) :
    (clientDict H app m c).map (·.1) = (fieldNames ++ ["type"]).map String.toList := by
  simp only [clientDict, fieldNames, List.map_cons, List.map_nil, List.cons_append, List.nil_append]

theorem wireFields_keys (H : Str → Str) (app : App) (m : Str) (c : Client) :
    (wireFields H app m c).map (·.1) = fieldNames.map String.toList := by
  simp only [wireFields, clientDict, fieldNames, List.dropLast, List.map_cons, List.map_nil]

theorem clientDict_get (H : Str → Str) (app : App) (m : Str) (c : Client) :
    dget (clientDict H app m c) "username" = some c.user ∧
    dget (clientDict H app m c) "realm" = some c.realm ∧
    dget (clientDict H app m c) "nonce" = some c.nonce ∧
    dget (clientDict H app m c) "uri" = some c.uri ∧
    dget (clientDict H app m c) "algorithm" = some app.algorithm ∧
    dget (clientDict H app m c) "response" = some (clientResponse H app m c) ∧
    dget (clientDict H app m c) "opaque" = some app.opaq ∧
    dget (clientDict H app m c) "qop" = some app.qop ∧
    dget (clientDict H app m c) "nc" = some c.nc ∧
    dget (clientDict H app m c) "cnonce" = some c.cnonce ∧
    dget (clientDict H app m c) "type" = some "Digest".toList := by
  have nd : ((clientDict H app m c).map (·.1)).Nodup := by
    rw [clientDict_keys]
    exact nodup_map_toList (List.Nodup.sublist (List.sublist_append_left ..)
      ((List.append_assoc fieldNames ["type"] ["username*"]).symm ▸ fieldNames_ok.1))
  refine ⟨?_, ?_, ?_, ?_, ?_, ?_, ?_, ?_, ?_, ?_, ?_⟩ <;> apply dget_of_mem nd <;>
    simp only [clientDict, List.mem_cons, true_or, or_true]

theorem wireFields_utf8 (H : Str → Str) (app : App) (m : Str) (c : Client) :
    (wireFields H app m c).map (fun kv => (kv.1, Headers.utf8 kv.2)) = (clientDict H app m c).dropLast := by
  simp [wireFields, List.map_map, Function.comp_def, Headers.utf8_iso]

/-- **from the header text to the parsed credentials**: the Authorization header an RFC 7616 client
    writes (`Digest username="..", realm="..", ...`, every value quoted, in its wire form) is
    tokenized, unquoted and transcoded to exactly the credentials the gate theorems speak about -/
theorem C11_wire (H : Str → Str) (app : App) (m : Str) (c : Client)
    (hv : ∀ kv ∈ wireFields H app m c, kv.2 ≠ [] ∧ '"' ∉ kv.2) :
    authDict (renderAuth (wireFields H app m c)) = some (clientDict H app m c) := by
  have hkeys := wireFields_keys H app m c
  rw [authDict_render (wireFields H app m c) (fun h0 => by rw [h0] at hkeys; cases hkeys)
    (fun kv hkv => by
      have hn := fieldNames_ok.2 kv.1 (hkeys ▸ List.mem_map_of_mem hkv)
      exact ⟨hn.1, hn.2, hv kv hkv⟩)
    (by rw [hkeys]; exact nodup_map_toList fieldNames_ok.1), wireFields_utf8]
  rfl

end Poor.Digest
