import PoorModel.HeaderValue
import Std.Data.String.ToNat
/-
Decimal numerals: the models write `str(n)` as `(toString n).toList` and read digit strings with `natOfDigits`.
-/
namespace Poor.HeaderValue

theorem isDigit_iff_toNat (c : Char) : isDigit c = true ↔ 48 ≤ c.toNat ∧ c.toNat ≤ 57 :=
  Char.isDigit_iff_toNat

theorem digit_ascii (c : Char) (h : isDigit c = true) : c.toNat < 128 := by
  have := (isDigit_iff_toNat c).mp h
  omega

theorem toList_toString (n : Nat) : (toString n).toList = Nat.toDigits 10 n :=
  Nat.toList_repr

theorem isDigit_toString (n : Nat) : ∀ c ∈ (toString n).toList, isDigit c = true := by
  rw [toList_toString]
  exact fun c => Nat.isDigit_of_mem_toDigits (by decide) (by decide)

theorem natOfDigits_toString (n : Nat) : natOfDigits (toString n).toList = n := by
  unfold natOfDigits
  rw [String.ofList_toList, show (toString n).toNat? = some n from Nat.toNat?_repr n]
  rfl

theorem toString_ne_nil (n : Nat) : (toString n).toList ≠ [] := by
  rw [toList_toString]
  exact Nat.toDigits_ne_nil

theorem toString_lead (n : Nat) (h : 0 < n) : ∃ d ds, (toString n).toList = d :: ds ∧ '1' ≤ d ∧ d ≤ '9' := by
  rw [toList_toString]
  induction n using Nat.strongRecOn with
  | _ n ih =>
    rw [Nat.toDigits_eq_if (by decide)]
    split
    · have : ∀ k, k < 10 → 0 < k → '1' ≤ Nat.digitChar k ∧ Nat.digitChar k ≤ '9' := by decide
      exact ⟨_, [], rfl, this n ‹n < 10› h⟩
    · obtain ⟨d, ds, e, hd⟩ := ih (n / 10) (Nat.div_lt_self h (by decide))
        (Nat.div_pos (Nat.le_of_not_lt ‹¬n < 10›) (by decide))
      exact ⟨d, ds ++ [Nat.digitChar (n % 10)], by rw [e]; rfl, hd⟩

end Poor.HeaderValue
