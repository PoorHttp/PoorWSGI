import PoorModel.HeaderValue
import PoorProofs.Lemmas.Scan
/-
What the scanners of PoorModel/HeaderValue.lean do on the texts the renderers write: `unescape` undoes `escQ`
in its two passes, `splitSeg` reads a quoted value with its closing quote as one stretch, `strip` leaves a text
with clean ends alone, `scanRanges` takes one `digits-digits` match at a time, `dictSet` appends a new name.
For C18; the multipart and Digest parsers use the same pieces.  The last part is C18's own statement about
parameterised values, `C18_params`, on which the multipart parser rests.
-/
namespace Poor.HeaderValue
open Poor

theorem replacePair_match (a b r : Char) (rest : Str) : replacePair a b r (a :: b :: rest) = r :: replacePair a b r rest := by
  simp [replacePair]

theorem replacePair_skip {a b r x : Char} {rest : Str} (h : x ≠ a ∨ rest.head? ≠ some b) :
    replacePair a b r (x :: rest) = x :: replacePair a b r rest := by
  cases rest with
  | nil => simp [replacePair]
  | cons y ys =>
    have : ¬(x = a ∧ y = b) := by
      rintro ⟨h1, h2⟩
      rcases h with h | h
      · exact h h1
      · simp [h2] at h
    simp [replacePair, this]

/-- first pass of the unescaping: `\\\\` → `\\` leaves only the escaped quotes escaped -/
def escQuoteOnly (v : Str) : Str := v.flatMap fun c => if c = '"' then ['\\', '"'] else [c]

theorem escQ_cons (c : Char) (t : Str) :
    escQ (c :: t) = if c = '\\' ∨ c = '"' then '\\' :: c :: escQ t else c :: escQ t := by
  by_cases h1 : c = '\\'
  · simp [escQ, h1]
  · by_cases h2 : c = '"' <;> simp [escQ, h1, h2]

theorem escQuoteOnly_cons (c : Char) (t : Str) :
    escQuoteOnly (c :: t) = if c = '"' then '\\' :: '"' :: escQuoteOnly t else c :: escQuoteOnly t := by
  by_cases h : c = '"' <;> simp [escQuoteOnly, h]

theorem unescape_pass1 (v : Str) : replacePair '\\' '\\' '\\' (escQ v) = escQuoteOnly v := by
  induction v with
  | nil => rfl
  | cons c rest ih =>
    rw [escQ_cons, escQuoteOnly_cons]
    by_cases h1 : c = '\\'
    · subst h1
      rw [if_pos (.inl rfl), if_neg (by decide), replacePair_match, ih]
    · by_cases h2 : c = '"'
      · subst h2
        rw [if_pos (.inr rfl), if_pos rfl, replacePair_skip (.inr (by simp)), replacePair_skip (.inl (by decide)), ih]
      · rw [if_neg (by simp [h1, h2]), if_neg h2, replacePair_skip (.inl h1), ih]

theorem escQuoteOnly_head (v : Str) : (escQuoteOnly v).head? ≠ some '"' := by
  cases v with
  | nil => simp [escQuoteOnly]
  | cons c rest =>
    rw [escQuoteOnly_cons]
    split
    · simp
    · rename_i h; simp; exact fun hc => h hc

theorem unescape_pass2 (v : Str) : replacePair '\\' '"' '"' (escQuoteOnly v) = v := by
  induction v with
  | nil => rfl
  | cons c rest ih =>
    rw [escQuoteOnly_cons]
    split
    · rename_i h2; rw [replacePair_match, ih, h2]
    · rw [replacePair_skip (.inr (escQuoteOnly_head rest)), ih]

/-- what `parse_header` undoes is exactly what `_formatparam` did -/
theorem unescape_escQ (v : Str) : unescape (escQ v) = v := by
  unfold unescape; rw [unescape_pass1, unescape_pass2]

/-- in state `q` (inside quotes or not) the scanner takes `x` into the segment it is reading, whatever follows,
    and is in state `q'` behind it -/
def Reads (q : Bool) (x : Str) (q' : Bool) : Prop :=
  ∀ rest, splitSeg q (x ++ rest) = (x ++ (splitSeg q' rest).1, (splitSeg q' rest).2)

theorem Reads.append {q q' q'' : Bool} {x y : Str} (hx : Reads q x q') (hy : Reads q' y q'') :
    Reads q (x ++ y) q'' := fun rest => by
  rw [List.append_assoc, hx, hy, List.append_assoc]

theorem reads_esc (c : Char) : Reads true ['\\', c] true := fun r => by
  rw [List.cons_append, List.singleton_append, splitSeg]
  rfl

theorem reads_quote (q : Bool) : Reads q ['"'] (!q) := fun r => by
  rw [List.singleton_append]
  cases q <;> (rw [splitSeg]; all_goals simp)

theorem splitSeg_semi (r : Str) : splitSeg false (';' :: r) = ([], ';' :: r) := by
  rw [splitSeg]; all_goals simp

/-- the last branch of `splitSeg`: `h1` and `h2` fail its two tests, `h3` keeps the equations for a backslash inside
    quotes away -/
theorem reads_other (q : Bool) (c : Char) (h1 : c ≠ '"') (h2 : c = ';' → q = true) (h3 : q = true → c ≠ '\\') :
    Reads q [c] q := fun r => by
  rw [List.singleton_append]
  cases q
  · rw [splitSeg]
    · have : c ≠ ';' := fun hc => by simpa using h2 hc
      simp [h1, this]
    all_goals simp
  · have h3' := h3 rfl
    rw [splitSeg]
    · simp [h1]
    all_goals (intros; simp_all)

theorem reads_plain (pre : Str) (h : ∀ c ∈ pre, c ≠ ';' ∧ c ≠ '"') : Reads false pre false := by
  induction pre with
  | nil => exact fun _ => rfl
  | cons c t ih =>
    have hc := h c (by simp)
    exact (reads_other false c hc.2 (fun e => absurd e hc.1) (fun e => by cases e)).append
      (ih fun x hx => h x (by simp [hx]))

/-- inside quotes the escaped value is one stretch, whatever the value contains (semicolons, equal signs, quotes,
    backslashes) -/
theorem reads_escQ (v : Str) : Reads true (escQ v) true := by
  induction v with
  | nil => exact fun _ => rfl
  | cons c t ih =>
    rw [escQ_cons]
    split
    · exact (reads_esc c).append ih
    · rename_i h
      exact (reads_other true c (fun e => h (.inr e)) (fun _ => rfl) (fun _ e => h (.inl e))).append ih

/-- inside quotes: the escaped value and the closing quote are one stretch -/
theorem splitSeg_quoted (v rest : Str) :
    splitSeg true (escQ v ++ '"' :: rest)
      = (escQ v ++ '"' :: (splitSeg false rest).1, (splitSeg false rest).2) := by
  simpa using (reads_escQ v).append (reads_quote true) rest

/-- between the blank and U+0085 there is no white space -/
theorem isSpace_of_range {c : Char} (h1 : 33 ≤ c.toNat) (h2 : c.toNat ≤ 132) : isSpace c = false := by
  unfold isSpace
  simp only [Bool.or_eq_false_iff, Bool.and_eq_false_iff, decide_eq_false_iff_not]
  omega

theorem strip_of_ends {s : Str} (h1 : ∀ c, s.head? = some c → isSpace c = false)
    (h2 : ∀ c, s.getLast? = some c → isSpace c = false) : strip s = s :=
  List.strip_eq_self h1 h2

theorem strip_nospace {s : Str} (h : ∀ c ∈ s, isSpace c = false) : strip s = s :=
  strip_of_ends (fun c hc => h c (List.mem_of_head? hc)) (fun c hc => h c (List.mem_of_getLast? hc))

theorem strip_space_cons (s : Str) : strip (' ' :: s) = strip s := by
  unfold strip
  rw [List.dropWhile_cons_of_pos (by decide)]

/-- where `scanRanges` goes on after a match: behind the comma, if one follows -/
def afterComma : Str → Str
  | ',' :: t => t
  | s => s

/-- one match of `(\d*)-(\d*),?` -/
theorem scanRanges_match {d1 d2 rest : Str} (h1 : ∀ c ∈ d1, isDigit c = true) (h2 : ∀ c ∈ d2, isDigit c = true)
    (hrest : ∀ c, rest.head? = some c → isDigit c = false) :
    scanRanges (d1 ++ '-' :: (d2 ++ rest)) = (d1, d2) :: scanRanges (afterComma rest) := by
  have hd := List.span_append_stop (r := '-' :: (d2 ++ rest)) h1 (by rintro _ ⟨⟩; rfl)
  obtain ⟨c, cs, hs⟩ : ∃ c cs, d1 ++ '-' :: (d2 ++ rest) = c :: cs := by
    cases d1 <;> exact ⟨_, _, rfl⟩
  rw [hs, scanRanges]
  split
  · rename_i r2 hdrop
    rw [← hs, hd.2] at hdrop
    cases hdrop
    simp only
    rw [← hs, hd.1, List.takeWhile_append_stop h2 hrest, List.dropWhile_append_stop h2 hrest]
    congr 2
    unfold afterComma
    cases rest with
    | nil => rfl
    | cons x t => by_cases hx : x = ',' <;> simp [hx]
  · rename_i hno
    exact absurd (hs ▸ hd.2) (hno _)

theorem dictSet_new {d : List (Str × Str)} {k : Str} (v : Str) (h : k ∉ d.map (·.1)) :
    dictSet d k v = d ++ [(k, v)] := by
  have : d.any (fun e => e.1 == k) = false :=
    List.any_eq_false.2 fun e he heq => h (List.mem_map.2 ⟨e, he, by simpa using heq⟩)
  simp [dictSet, this]

theorem foldl_dictSet_new (d ps : List (Str × Str)) (h : ((d ++ ps).map (·.1)).Nodup) :
    ps.foldl (fun d kv => dictSet d kv.1 kv.2) d = d ++ ps :=
  List.foldl_append_fresh (·.1) (fun _ kv => dictSet_new kv.2) d ps h

end Poor.HeaderValue

/-! ### C18, parameterised values (here because the multipart parser of C08 rests on `C18_params`) -/

namespace Poor.Props.C18
open Poor Poor.HeaderValue

/-- parameter names as `add_header(**kwargs)` produces them and `parse_header` returns them:
    non-empty, lower-case, free of separators and white space -/
def KeyOK (k : Str) : Prop :=
  k ≠ [] ∧ ∀ c ∈ k, c ≠ '=' ∧ c ≠ ';' ∧ c ≠ '"' ∧ isSpace c = false ∧ c.toLower = c

/-- a main value (media type, disposition): non-empty, no `;`, no `"`, no white space -/
def MainOK (m : Str) : Prop := m ≠ [] ∧ ∀ c ∈ m, c ≠ ';' ∧ c ≠ '"' ∧ isSpace c = false

theorem renderParam_eq (k v : Str) : renderParam k v = k ++ '=' :: ('"' :: escQ v ++ ['"']) := by
  simp [renderParam]

theorem renderParam_getLast? (k v : Str) : (renderParam k v).getLast? = some '"' := by
  unfold renderParam
  rw [List.getLast?_append_of_ne_nil _ (by decide)]
  rfl

theorem strip_quoted (v : Str) : strip ('"' :: escQ v ++ ['"']) = '"' :: escQ v ++ ['"'] :=
  strip_of_ends (fun c hc => by cases hc; rfl) fun c hc => by
    rw [List.getLast?_concat] at hc; cases hc; rfl

theorem strip_renderParam {k : Str} (v : Str) (hk : KeyOK k) : strip (renderParam k v) = renderParam k v := by
  obtain ⟨c, t, rfl⟩ := List.exists_cons_of_ne_nil hk.1
  refine strip_of_ends (fun x hx => ?_) (fun x hx => ?_)
  · cases hx; exact (hk.2 c (by simp)).2.2.2.1
  · rw [renderParam_getLast?] at hx; cases hx; rfl

theorem unquote_quoted (v : Str) : unquoteIfQuoted ('"' :: escQ v ++ ['"']) = v := by
  have hlast : ('"' :: escQ v ++ ['"']).getLast? = some '"' := List.getLast?_concat
  rw [unquoteIfQuoted, hlast]
  simp [unescape_escQ]

/-- **one parameter**: whatever the (non-empty) value contains - spaces, `;`, `"`, `\\`, `=`,
    `,`, non-ASCII text - parsing its rendering returns the name and exactly that value -/
theorem parseOne_render (k v : Str) (hk : KeyOK k) : parseOne (renderParam k v) = some (k, v) := by
  obtain ⟨hne, hall⟩ := hk
  obtain ⟨h1, h2⟩ := List.span_ne_append_cons (fun c hc => (hall c hc).1) ('"' :: escQ v ++ ['"'])
  have hklow : lowerAscii k = k :=
    (List.map_congr_left fun c hc => (hall c hc).2.2.2.2).trans (List.map_id k)
  rw [parseOne, paramValue, renderParam_eq, if_pos (by simp), h1, h2, List.drop_succ_cons, List.drop_zero,
    strip_quoted, unquote_quoted, strip_nospace (fun c hc => (hall c hc).2.2.2.1), hklow]

/-- the text after the main value: `; k1="v1"; k2="v2" ...` -/
def tail (ps : List (Str × Str)) : Str := ps.flatMap fun kv => ';' :: ' ' :: renderParam kv.1 kv.2

theorem tail_cons (kv : Str × Str) (t : List (Str × Str)) :
    tail (kv :: t) = ';' :: (' ' :: renderParam kv.1 kv.2 ++ tail t) := rfl

theorem tail_getLast? {ps : List (Str × Str)} (h : ps ≠ []) : (tail ps).getLast? = some '"' := by
  obtain ⟨qs, kv, rfl⟩ := (List.eq_nil_or_concat ps).resolve_left h
  rw [List.concat_eq_append, tail, List.flatMap_append, List.flatMap_singleton,
    List.getLast?_append_of_ne_nil _ (List.cons_ne_nil _ _), List.getLast?_cons_cons, List.getLast?_cons,
    renderParam_getLast?]
  rfl

theorem renderHeader_eq (main : Str) (ps : List (Str × Str)) :
    renderHeader (some main) ps = main ++ tail ps := by
  unfold renderHeader tail
  simp only [Option.toList_some, List.singleton_append]
  induction ps generalizing main with
  | nil => simp [List.intercalate]
  | cons kv t ih =>
    have := ih (renderParam kv.1 kv.2)
    simp only [List.map_cons, List.flatMap_cons]
    rw [List.intercalate_cons_cons, this]
    simp [List.append_assoc]

theorem reads_param {k : Str} (v : Str) (hk : KeyOK k) : Reads false (' ' :: renderParam k v) false := by
  simpa [renderParam_eq] using reads_plain [' '] (by decide)
    |>.append (reads_plain k fun c h => ⟨(hk.2 c h).2.1, (hk.2 c h).2.2.1⟩)
    |>.append (reads_plain ['='] (by decide))
    |>.append (reads_quote false) |>.append (reads_escQ v) |>.append (reads_quote true)

/-- `_parseparam` takes a segment that the scanner reads as one stretch off the front of the rendered
    parameters: the next thing is the `;` that starts them, or the end -/
theorem parseParam_seg {seg : Str} (ps : List (Str × Str)) (h : Reads false seg false) :
    parseParam (';' :: (seg ++ tail ps)) = strip seg :: parseParam (tail ps) := by
  have hstop : splitSeg false (tail ps) = ([], tail ps) := by
    cases ps with
    | nil => rfl
    | cons kv t => exact splitSeg_semi _
  rw [parseParam, h, hstop, List.append_nil]

/-- `_parseparam` cuts the rendered parameters exactly at their boundaries -/
theorem parseParam_tail (ps : List (Str × Str)) (hk : ∀ kv ∈ ps, KeyOK kv.1) :
    parseParam (tail ps) = ps.map fun kv => renderParam kv.1 kv.2 := by
  induction ps with
  | nil => simp [tail, parseParam]
  | cons kv t ih =>
    have hkv := hk kv (by simp)
    rw [tail_cons, parseParam_seg t (reads_param kv.2 hkv), strip_space_cons,
      strip_renderParam kv.2 hkv, ih fun x hx => hk x (List.mem_cons_of_mem _ hx), List.map_cons]

/-- **C18 (parameterised values).** For every main value and every list of parameters with
    distinct names and arbitrary non-empty values, parsing what the library renders returns
    the original main value and exactly the parameters, in order. -/
theorem C18_params (main : Str) (ps : List (Str × Str)) (hm : MainOK main)
    (hk : ∀ kv ∈ ps, KeyOK kv.1) (hnd : (ps.map (·.1)).Nodup) :
    parseHeader (renderHeader (some main) ps) = (main, ps) := by
  have hplain : ∀ c ∈ main, c ≠ ';' ∧ c ≠ '"' := fun c hc => ⟨(hm.2 c hc).1, (hm.2 c hc).2.1⟩
  rw [renderHeader_eq, parseHeader, parseParam_seg ps (reads_plain main hplain),
    strip_nospace fun c hc => (hm.2 c hc).2.2, parseParam_tail ps hk]
  exact congrArg (Prod.mk main) <| List.foldl_map.trans <|
    (List.foldl_congr_mem (fun d kv h => by rw [parseOne_render kv.1 kv.2 (hk kv h)]) []).trans <|
    foldl_dictSet_new [] ps hnd

end Poor.Props.C18
