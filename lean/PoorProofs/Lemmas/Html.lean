import PoorModel.Html
/-
C15/C20, the page templates.  The static check `post` is sound for the dynamic claim `inertRun` because a character
that is none of `<`, `>`, `"`, `'` moves the tokenizer out of no state (`step_inert`), and that is all a class other
than `token` and `rawTainted` can emit: a hole that `holeOk` admits leaves the state where it was (`step_hole`,
`inertRun_hole`).  The two results, `post_sound` and `diagFree_sound`, are inductions over `Renders`, the renderings
of a template.
-/
namespace Poor.Html
open Poor

theorem inertRun_append (q : St) (x y : List RC) :
    inertRun q (x ++ y) = (inertRun q x).bind fun q1 => inertRun q1 y := by
  induction x generalizing q with
  | nil => rfl
  | cons r rest ih =>
    simp only [List.cons_append, inertRun]
    split
    · rfl
    · exact ih _

theorem inertRun_lit (q : St) (s : Str) : inertRun q (litRC s) = some (run q s) := by
  induction s generalizing q with
  | nil => rfl
  | cons c rest ih =>
    simp only [litRC, List.map_cons, inertRun, Bool.false_and, Bool.false_eq_true, if_false]
    exact ih _

/-- a character that is none of `<`, `>`, `"`, `'` moves no state -/
theorem step_inert {c : Char} (h : Cls.escaped.allows c = true) (q : St) : step q c = q := by
  simp only [Cls.allows, Bool.not_eq_true', Bool.or_eq_false_iff, beq_eq_false_iff_ne] at h
  cases q <;> simp [step, h]

/-- a character a hole may emit never changes the state the hole may sit in -/
theorem step_hole (cls : Cls) (q : St) (c : Char) (hok : holeOk cls q = true)
    (ha : cls.allows c = true) : step q c = q := by
  cases cls
  case rawTainted => cases hok
  case token =>
    -- the one class that lets `'` through may sit neither in a tag nor in single quotes
    simp only [Cls.allows, Bool.not_eq_true', Bool.or_eq_false_iff, beq_eq_false_iff_ne] at ha
    cases q
    case tag | attrSQ => cases hok
    all_goals simp [step, ha]
  -- the four classes left allow what `escaped` allows, by the same expression
  all_goals exact step_inert ha q

theorem holeOk_not_tag (cls : Cls) (q : St) (hok : holeOk cls q = true) (ht : cls.tainted = true) :
    q ≠ .tag := by
  rintro rfl
  cases cls <;> simp_all [holeOk, Cls.tainted]

theorem inertRun_hole (cls : Cls) (q : St) (x : Str) (hok : holeOk cls q = true)
    (ha : ∀ c ∈ x, cls.allows c = true) : inertRun q (holeRC cls x) = some q := by
  induction x with
  | nil => rfl
  | cons c rest ih =>
    have hs := step_hole cls q c hok (ha c (by simp))
    simp only [holeRC, List.map_cons, inertRun, hs]
    have : (cls.tainted && (q == St.tag || q != q)) = false := by
      cases ht : cls.tainted with
      | false => rfl
      | true =>
        have := holeOk_not_tag cls q hok ht
        simp [this]
    rw [this]
    simp only [Bool.false_eq_true, if_false]
    exact ih (fun c hc => ha c (by simp [hc]))

theorem post_alt {a b : Tpl} {q q' : St} (h : post (.alt a b) q = some q') :
    post a q = some q' ∧ post b q = some q' := by
  simp only [post] at h
  split at h
  · rename_i x y hx hy
    split at h
    · rename_i hxy; cases h; exact ⟨hx, hxy ▸ hy⟩
    · cases h
  · cases h

theorem post_star {a : Tpl} {q q' : St} (h : post (.star a) q = some q') : q' = q ∧ post a q = some q := by
  simp only [post] at h
  split at h
  · rename_i q1 hq1
    split at h
    · rename_i he; cases h; exact ⟨rfl, he ▸ hq1⟩
    · cases h
  · cases h

/-- **soundness of the static check**: if `post t q = some q'`, every rendering of `t`
    (any debug flag, any hole contents of the declared classes, any loop counts) is read
    from state `q` without a client-controlled character touching the markup structure,
    and ends in `q'`. -/
theorem post_sound {debug : Bool} {t : Tpl} {xs : List RC} (hr : Renders debug t xs) :
    ∀ q q', post t q = some q' → inertRun q xs = some q' := by
  induction hr with
  | lit s => intro q q' h; simp only [post, Option.some.injEq] at h; rw [inertRun_lit, h]
  | hole cls x ha =>
    intro q q' h
    simp only [post] at h
    split at h
    · rename_i hok; cases h; exact inertRun_hole cls q x hok ha
    · cases h
  | seq _ _ iha ihb =>
    intro q q' h
    obtain ⟨q1, h1, h2⟩ := Option.bind_eq_some_iff.mp h
    rw [inertRun_append, iha q q1 h1]
    exact ihb q1 q' h2
  -- `post` treats `.ifDebug` as it treats `.alt`: both flags are checked at once
  | altL _ ih => exact fun q q' h => ih q q' (post_alt h).1
  | altR _ ih => exact fun q q' h => ih q q' (post_alt h).2
  | dbgOn _ _ ih => exact fun q q' h => ih q q' (post_alt h).1
  | dbgOff _ _ ih => exact fun q q' h => ih q q' (post_alt h).2
  | starNil => intro q q' h; rw [(post_star h).1]; rfl
  | starCons _ _ iha ihs =>
    intro q q' h
    obtain ⟨rfl, ha⟩ := post_star h
    rw [inertRun_append, iha _ _ ha]
    exact ihs _ _ h
  | empty => intro q q' h; simp only [post, Option.some.injEq] at h; rw [← h]; rfl

/-- with debug off, a template that passes `diagFreeOff` renders no diagnostic character -/
theorem diagFree_sound {t : Tpl} {xs : List RC} (hr : Renders false t xs) :
    diagFreeOff t = true → ∀ r ∈ xs, r.diag = false := by
  induction hr with
  | lit s => intro _ r hr; simp [litRC] at hr; obtain ⟨_, _, rfl⟩ := hr; rfl
  | hole cls x ha =>
    intro h r hr
    simp only [diagFreeOff, Bool.not_eq_true'] at h
    simp [holeRC] at hr; obtain ⟨_, _, rfl⟩ := hr; exact h
  | seq ha hb iha ihb =>
    intro h r hr
    simp only [diagFreeOff, Bool.and_eq_true] at h
    rcases List.mem_append.mp hr with h1 | h1
    · exact iha h.1 r h1
    · exact ihb h.2 r h1
  | altL ha iha =>
    intro h r hr; simp only [diagFreeOff, Bool.and_eq_true] at h; exact iha h.1 r hr
  | altR hb ihb =>
    intro h r hr; simp only [diagFreeOff, Bool.and_eq_true] at h; exact ihb h.2 r hr
  | dbgOn hd _ _ => cases hd
  | dbgOff _ hb ihb => intro h r hr; exact ihb h r hr
  | starNil => intro _ r hr; cases hr
  | starCons ha hs iha ihs =>
    intro h r hr
    rcases List.mem_append.mp hr with h1 | h1
    · exact iha (by simpa [diagFreeOff] using h) r h1
    · exact ihs h r h1
  | empty => intro _ r hr; cases hr

end Poor.Html
