import PoorModel.Json
import PoorProofs.Lemmas.Digits
import PoorProofs.Lemmas.Scan
import PoorProofs.Lemmas.Transcode
/-
What each function of the JSON codec model (PoorModel/Json.lean) does on one form of input, said once per function
and form, so that the proofs about whole texts never unfold the scanner, `escChar`, the number parser or `pValue`.
That the parser inverts `dump` is an instance of the theorem about every spelling of a value and stands behind it,
in JsonAny.lean.
-/
namespace Poor.Json
open Poor
open Poor.HeaderValue (isDigit natOfDigits)

/-! ### the string scanner at one code point -/

theorem scanStr_raw (c : Char) (h1 : 0x20 ≤ c.toNat) (h2 : c ≠ '"') (h3 : c ≠ '\\') (T : Str) (acc : CpStr) :
    scanStr (c :: T) acc = scanStr T (c.toNat :: acc) := by
  rw [scanStr.eq_def]
  simp only [h2, h3, if_false]
  rw [if_neg (by omega)]

theorem scanStr_short (e : Char) (v : Nat) (he : e ≠ 'u') (hv : unesc e = some v) (t : Str) (acc : CpStr) :
    scanStr ('\\' :: e :: t) acc = scanStr t (v :: acc) := by
  rw [scanStr.eq_def]
  simp [he, hv]

theorem pairAt_no_esc (u : Nat) (r3 : Str) (h : ∀ r4, r3 ≠ '\\' :: 'u' :: r4) : pairAt u r3 = some none := by
  unfold pairAt
  split
  · split
    · exact absurd rfl (h _)
    · rfl
  · rfl

theorem pairAt_esc (u : Nat) {r4 T : Str} {n : Nat} (hx : hex4? r4 = some (n, T)) :
    pairAt u ('\\' :: 'u' :: r4) =
      if isHigh u = true ∧ T ≠ [] ∧ isLow n = true then some (some (joinSur u n, T)) else some none := by
  have hlen : 7 ≤ ('\\' :: 'u' :: r4).length ↔ T ≠ [] := by
    rw [List.length_cons, List.length_cons, hex4?_len hx, ← List.length_pos_iff]
    omega
  simp only [pairAt, hx, Bool.and_eq_true, decide_eq_true_eq, hlen]
  by_cases h : isHigh u = true ∧ T ≠ []
  · rw [if_pos h]; simp only [h.1, h.2, ne_eq, not_false_eq_true, true_and]
  · rw [if_neg h, if_neg fun h' => h ⟨h'.1, h'.2.1⟩]

theorem scanStr_u {r2 r3 : Str} {u : Nat} (hx : hex4? r2 = some (u, r3)) (ht : r3 ≠ []) (acc : CpStr) :
    scanStr ('\\' :: 'u' :: r2) acc =
      match pairAt u r3 with
      | none => .err
      | some none => scanStr r3 (u :: acc)
      | some (some (j, r)) => scanStr r (j :: acc) := by
  rw [scanStr.eq_def]
  have e1 : ('\\' : Char) ≠ '"' := by decide
  simp only [e1, if_false, if_true]
  split
  · rename_i h; rw [hx] at h; cases h
  · rename_i u' r3' h
    rw [hx] at h
    cases h
    simp only [List.isEmpty_eq_false_iff.mpr ht, Bool.false_eq_true, if_false]
    split <;> rename_i h5 <;> simp only [h5]

/-! ### what `escChar` writes -/

theorem hexVal_hexd : ∀ d, d < 16 → hexVal (hexd d) = some d := by decide

theorem hex4?_hex4 (n : Nat) (h : n < 65536) (r : Str) : hex4? (hex4 n ++ r) = some (n, r) := by
  simp only [hex4, List.cons_append, List.nil_append, hex4?]
  rw [hexVal_hexd _ (Nat.mod_lt _ (by decide)), hexVal_hexd _ (Nat.mod_lt _ (by decide)),
      hexVal_hexd _ (Nat.mod_lt _ (by decide)), hexVal_hexd _ (Nat.mod_lt _ (by decide))]
  simp only [Option.some.injEq, Prod.mk.injEq, and_true]
  rw [Nat.mod_eq_of_lt (Nat.div_lt_of_lt_mul h : n / 4096 < 16),
    show n / 4096 = n / 256 / 16 from (Nat.div_div_eq_div_mul n 256 16).symm, Nat.div_add_mod',
    show n / 256 = n / 16 / 16 from (Nat.div_div_eq_div_mul n 16 16).symm, Nat.div_add_mod', Nat.div_add_mod']

theorem hex4?_append {a b c d : Char} {n : Nat} (h : hex4? [a, b, c, d] = some (n, [])) (T : Str) :
    hex4? (a :: b :: c :: d :: T) = some (n, T) := by
  simp only [hex4?] at h ⊢
  split at h
  · simp only [Option.some.injEq, Prod.mk.injEq, and_true] at h
    rw [h]
  · simp at h

/-- the code points `escChar` writes as a two-character escape, with the character behind the backslash -/
def shortEscapes : List (Nat × Char) := [(34, '"'), (92, '\\'), (10, 'n'), (13, 'r'), (9, 't'), (12, 'f'), (8, 'b')]

theorem shortEscapes_spec : ∀ p ∈ shortEscapes, p.2 ≠ 'u' ∧ unesc p.2 = some p.1 ∧ p.2.toNat < 128 := by decide

theorem escChar_cases (c : Nat) :
    (∃ e, (c, e) ∈ shortEscapes ∧ escChar c = ['\\', e]) ∨
    (32 ≤ c ∧ c ≤ 126 ∧ c ≠ 34 ∧ c ≠ 92 ∧ escChar c = [Char.ofNat c]) ∨
    (c < 65536 ∧ escChar c = uesc c) ∨
    (∃ m, c = 65536 + m ∧ escChar c = uesc (0xd800 + m / 1024 % 1024) ++ uesc (0xdc00 + m % 1024)) := by
  unfold escChar
  -- not `split`: on nine nested `if`s its `simp` calls see the whole rest of the chain at every level
  by_cases h1 : c = 34; · subst h1; exact .inl ⟨_, by decide, rfl⟩
  by_cases h2 : c = 92; · subst h2; exact .inl ⟨_, by decide, rfl⟩
  by_cases h3 : c = 10; · subst h3; exact .inl ⟨_, by decide, rfl⟩
  by_cases h4 : c = 13; · subst h4; exact .inl ⟨_, by decide, rfl⟩
  by_cases h5 : c = 9; · subst h5; exact .inl ⟨_, by decide, rfl⟩
  by_cases h6 : c = 12; · subst h6; exact .inl ⟨_, by decide, rfl⟩
  by_cases h7 : c = 8; · subst h7; exact .inl ⟨_, by decide, rfl⟩
  rw [if_neg h1, if_neg h2, if_neg h3, if_neg h4, if_neg h5, if_neg h6, if_neg h7]
  by_cases h8 : 32 ≤ c ∧ c ≤ 126; · rw [if_pos h8]; exact .inr (.inl ⟨h8.1, h8.2, h1, h2, rfl⟩)
  rw [if_neg h8]
  by_cases h9 : c < 65536
  · rw [if_pos h9]; exact .inr (.inr (.inl ⟨h9, rfl⟩))
  · rw [if_neg h9]; exact .inr (.inr (.inr ⟨c - 65536, by omega, rfl⟩))

/-- the surrogate pair `escChar` writes for `0x10000 + m`, and `joinSur` reads back -/
theorem surrogates (m : Nat) (h : m < 0x100000) :
    isHigh (0xd800 + m / 1024 % 1024) = true ∧ isLow (0xdc00 + m % 1024) = true ∧
    0xd800 + m / 1024 % 1024 < 65536 ∧ 0xdc00 + m % 1024 < 65536 ∧
    joinSur (0xd800 + m / 1024 % 1024) (0xdc00 + m % 1024) = 0x10000 + m := by
  have e : m / 1024 % 1024 * 1024 + m % 1024 = m := by
    rw [Nat.mod_eq_of_lt (Nat.div_lt_of_lt_mul h), Nat.div_add_mod']
  have ha : m / 1024 % 1024 < 1024 := Nat.mod_lt _ (by decide)
  have hb : m % 1024 < 1024 := Nat.mod_lt _ (by decide)
  generalize m / 1024 % 1024 = a at *
  generalize m % 1024 = b at *
  unfold isHigh isLow joinSur
  simp only [Bool.and_eq_true, decide_eq_true_eq, Nat.add_sub_cancel_left]
  omega

/-! ### the number scanner on `str(int)` -/

theorem digitsOf_isDigit (n : Nat) : ∀ c ∈ digitsOf n, isDigit c = true :=
  HeaderValue.isDigit_toString n

theorem natOfDigits_digitsOf (n : Nat) : natOfDigits (digitsOf n) = n :=
  HeaderValue.natOfDigits_toString n

theorem digitsOf_head (n : Nat) : ∃ d r, digitsOf n = d :: r ∧ isDigit d = true := by
  obtain ⟨d, r, e⟩ : ∃ d r, digitsOf n = d :: r := List.exists_cons_of_ne_nil (HeaderValue.toString_ne_nil n)
  exact ⟨d, r, e, digitsOf_isDigit n d (e ▸ List.mem_cons_self)⟩

def numCont (c : Char) : Bool := isDigit c || c = '.' || c = 'e' || c = 'E'

/-- what follows a value does not continue a number (a separator, a closing bracket, white space, the end) -/
def SepOK (rest : Str) : Prop := ∀ c r, rest = c :: r → numCont c = false

theorem dropFrac_sep (rest : Str) (h : SepOK rest) : dropFrac rest = (false, rest) := by
  unfold dropFrac
  split
  · rename_i d r
    have := h '.' (d :: r) rfl
    exact absurd this (by decide)
  · rfl

theorem dropExp_sep (rest : Str) (h : SepOK rest) : dropExp rest = (false, rest) := by
  unfold dropExp
  split
  · rename_i e c r'
    have := h e (c :: r') rfl
    split
    · rename_i he
      rcases he with rfl | rfl <;> exact absurd this (by decide)
    · rfl
  · rfl

theorem finishNumber_sep (neg : Bool) (ds rest : Str) (h : SepOK rest) (hl : ds.length ≤ INT_MAX_DIGITS) :
    finishNumber neg ds rest = .ok (.int (if neg then - (natOfDigits ds : Int) else natOfDigits ds)) rest := by
  unfold finishNumber
  rw [dropFrac_sep rest h]
  simp only [dropExp_sep rest h, Bool.or_self, Bool.false_eq_true, if_false]
  rw [if_neg (by omega)]

theorem SepOK.head_not_digit {rest : Str} (h : SepOK rest) (c : Char) (hc : rest.head? = some c) : isDigit c = false := by
  cases rest with
  | nil => cases hc
  | cons a r =>
    cases hc
    have := h c r rfl
    simp only [numCont, Bool.or_eq_false_iff] at this
    exact this.1.1.1

theorem pDigits_digitsOf (neg : Bool) (n : Nat) (rest : Str) (h : SepOK rest)
    (hl : (digitsOf n).length ≤ INT_MAX_DIGITS) :
    pDigits neg (digitsOf n ++ rest) = .ok (.int (if neg then - (n : Int) else n)) rest := by
  have key : pDigits neg (digitsOf n ++ rest) = finishNumber neg (digitsOf n) rest := by
    by_cases hn : n = 0
    · subst hn; rfl
    · obtain ⟨d, ds, e, hd⟩ : ∃ d ds, digitsOf n = d :: ds ∧ '1' ≤ d ∧ d ≤ '9' := HeaderValue.toString_lead n (by omega)
      have hall := digitsOf_isDigit n
      rw [e] at hall ⊢
      have hspan := List.span_append_stop (fun c hc => hall c (List.mem_cons_of_mem _ hc)) h.head_not_digit
      have hd0 : d ≠ '0' := fun e0 => absurd (e0 ▸ hd.1) (by decide)
      simp only [pDigits, List.cons_append, hd0, if_false, hd, and_self, if_true, hspan.1, hspan.2]
  rw [key, finishNumber_sep neg _ rest h hl, natOfDigits_digitsOf]

theorem pNumber_dumpInt (i : Int) (rest : Str) (h : SepOK rest)
    (hl : (digitsOf i.natAbs).length ≤ INT_MAX_DIGITS) :
    pNumber (dumpInt i ++ rest) = .ok (.int i) rest := by
  unfold dumpInt
  split
  · simp only [List.cons_append, pNumber]
    rw [pDigits_digitsOf true i.natAbs rest h hl, if_pos rfl, show -(i.natAbs : Int) = i by omega]
  · obtain ⟨d, r, e, hd⟩ := digitsOf_head i.natAbs
    have hp := pDigits_digitsOf false i.natAbs rest h hl
    rw [e] at hp ⊢
    unfold pNumber
    split
    · rename_i r' heq
      simp only [List.cons_append, List.cons.injEq] at heq
      exact absurd (heq.1 ▸ hd) (by decide)
    · rw [hp, if_neg (by decide), show (i.natAbs : Int) = i by omega]

/-! ### the values the round trip preserves; the first character of their text -/

/-- no high surrogate directly followed by a low one: `escChar` writes the two as `\ud8xx\udcxx`, which is also how
    it writes one code point above U+FFFF, and `scanStr`, like CPython, reads that as one
    (`JsonCodec.surrogate_pair_merged`) -/
def NoPair : CpStr → Prop
  | a :: b :: r => ¬ (isHigh a = true ∧ isLow b = true) ∧ NoPair (b :: r)
  | _ => True

/-- `dumpStr s ++ rest` behind its opening quote, which is where `pValue` hands over to `scanStr` -/
def tailText (s : CpStr) (rest : Str) : Str := s.flatMap escChar ++ '"' :: rest

/-- a string `dumpStr` writes so that `scanStr` reads it back: above U+10FFFF the two `\uXXXX` of `escChar` no longer
    hold the code point (`surrogates` needs `m < 0x100000`) -/
def StrOK (s : CpStr) : Prop := (∀ c ∈ s, c < 0x110000) ∧ NoPair s

mutual
/-- a Python value the JSON round trip preserves: no float (not modelled), integers of at most 4300 digits
    (`int()` refuses more), strings of Unicode code points without an adjacent surrogate pair (`StrOK`), the keys of
    one object distinct (`obj` holds a list of pairs where Python has a `dict`: `dump` would write a repeated key
    twice and `pMembers` keep one entry, `dset`) -/
def JOk : J → Prop
  | .null => True
  | .bool _ => True
  | .int i => (digitsOf i.natAbs).length ≤ INT_MAX_DIGITS
  | .float => False
  | .str s => StrOK s
  | .arr l => JOks l
  | .obj l => MOk l ∧ (l.map Prod.fst).Nodup
def JOks : List J → Prop
  | [] => True
  | x :: xs => JOk x ∧ JOks xs
def MOk : List (CpStr × J) → Prop
  | [] => True
  | (k, v) :: r => StrOK k ∧ JOk v ∧ MOk r
end

/-- `J` is nested through `List`, so `induction` needs a principle with one motive: `J.rec` with the motives for
    the lists set to `∀ x ∈ l` -/
theorem J.ind {P : J → Prop} (null : P .null) (bool : ∀ b, P (.bool b)) (int : ∀ i, P (.int i)) (float : P .float)
    (str : ∀ s, P (.str s)) (arr : ∀ l, (∀ x ∈ l, P x) → P (.arr l))
    (obj : ∀ l : List (CpStr × J), (∀ kv ∈ l, P kv.2) → P (.obj l)) (v : J) : P v :=
  J.rec (motive_1 := P) (motive_2 := fun l => ∀ x ∈ l, P x) (motive_3 := fun l => ∀ kv ∈ l, P kv.2)
    (motive_4 := fun kv => P kv.2) null bool int float str arr obj
    (fun _ h => nomatch h) (fun _ _ hx hl => List.forall_mem_cons.mpr ⟨hx, hl⟩)
    (fun _ h => nomatch h) (fun _ _ hx hl => List.forall_mem_cons.mpr ⟨hx, hl⟩) (fun _ _ h => h) v

theorem JOks_iff (l : List J) : JOks l ↔ ∀ x ∈ l, JOk x := by
  induction l with
  | nil => simp [JOks]
  | cons y ys ih => simp only [JOks, ih, List.forall_mem_cons]

theorem MOk_iff (l : List (CpStr × J)) : MOk l ↔ ∀ kv ∈ l, StrOK kv.1 ∧ JOk kv.2 := by
  induction l with
  | nil => simp [MOk]
  | cons kv r ih => obtain ⟨k, v⟩ := kv; simp only [MOk, ih, List.forall_mem_cons, and_assoc]

/-- what the parser needs of the first character of a value's text: `skipWs` stops at it, the test for an empty
    array fails on it (for an object `Membs_head` gives the quote), and it is not the BOM `loads` refuses -/
abbrev HeadOK (c : Char) : Prop := isWs c = false ∧ c ≠ ']' ∧ c.toNat < 128

theorem digit_ne (c d : Char) (hc : isDigit c = true) (hd : isDigit d = false) : c ≠ d := by
  intro e; subst e; rw [hc] at hd; cases hd

theorem headOK_of_digit (c : Char) (h : isDigit c = true) : HeadOK c := by
  have hne : ∀ d, isDigit d = false → c ≠ d := fun d => digit_ne c d h
  refine ⟨?_, hne _ (by decide), HeaderValue.digit_ascii c h⟩
  simp only [isWs, Bool.or_eq_false_iff, decide_eq_false_iff_not]
  exact ⟨⟨⟨hne _ (by decide), hne _ (by decide)⟩, hne _ (by decide)⟩, hne _ (by decide)⟩

theorem dumpInt_head (i : Int) : ∃ c r, dumpInt i = c :: r ∧ HeadOK c := by
  unfold dumpInt
  split
  · exact ⟨'-', _, rfl, by decide⟩
  · obtain ⟨d, r, e, hd⟩ := digitsOf_head i.natAbs
    exact ⟨d, r, e, headOK_of_digit d hd⟩

theorem dumpMembers_length_pos (xs : List (CpStr × J)) : 0 < (dumpMembers xs).length := by
  cases xs with
  | nil => simp [dumpMembers]
  | cons kv t => obtain ⟨k, v⟩ := kv; simp [dumpMembers]

theorem dset_fresh (acc : List (CpStr × J)) (k : CpStr) (v : J) (h : k ∉ acc.map Prod.fst) :
    dset acc k v = acc ++ [(k, v)] := by
  induction acc with
  | nil => rfl
  | cons a acc ih =>
    obtain ⟨k', v'⟩ := a
    simp only [List.map_cons, List.mem_cons, not_or] at h
    simp only [dset, List.cons_append]
    rw [if_neg (fun e => h.1 e.symm), ih h.2]

/-! ### `pLiteral` and `pValue` by the first character -/

theorem startsWith_cons_ne {c d : Char} {T p : Str} (h : c ≠ d) : startsWith (c :: T) (d :: p) = none := by
  unfold startsWith
  rw [if_neg]
  simp only [List.isPrefixOf, Bool.and_eq_true, beq_iff_eq, not_and]
  intro e; exact absurd e.symm h

theorem startsWith_cons_self (c : Char) (T p : Str) : startsWith (c :: T) (c :: p) = startsWith T p := by
  simp [startsWith, List.isPrefixOf]

theorem startsWith_nil (T : Str) : startsWith T [] = some T := rfl

/-- `pLiteral` with its six words as list literals (the model has `"null".toList`), so that `startsWith_cons_ne` and
    `startsWith_cons_self` can compare them with the input character by character -/
theorem pLiteral_eq (s : Str) : pLiteral s =
    match startsWith s ['n', 'u', 'l', 'l'] with
    | some r => some (.null, r)
    | none =>
    match startsWith s ['t', 'r', 'u', 'e'] with
    | some r => some (.bool true, r)
    | none =>
    match startsWith s ['f', 'a', 'l', 's', 'e'] with
    | some r => some (.bool false, r)
    | none =>
    match startsWith s ['N', 'a', 'N'] with
    | some r => some (.float, r)
    | none =>
    match startsWith s ['I', 'n', 'f', 'i', 'n', 'i', 't', 'y'] with
    | some r => some (.float, r)
    | none =>
    match startsWith s ['-', 'I', 'n', 'f', 'i', 'n', 'i', 't', 'y'] with
    | some r => some (.float, r)
    | none => none := by
  simp only [pLiteral, String.reduceToList]
  rfl

theorem pLiteral_none (c : Char) (T : Str) (h : c ∉ ['n', 't', 'f', 'N', 'I', '-']) : pLiteral (c :: T) = none := by
  simp only [List.mem_cons, List.not_mem_nil, or_false, not_or] at h
  obtain ⟨h1, h2, h3, h4, h5, h6⟩ := h
  rw [pLiteral_eq, startsWith_cons_ne h1, startsWith_cons_ne h2, startsWith_cons_ne h3,
    startsWith_cons_ne h4, startsWith_cons_ne h5, startsWith_cons_ne h6]

theorem pLiteral_minus (c : Char) (T : Str) (h : c ≠ 'I') : pLiteral ('-' :: c :: T) = none := by
  rw [pLiteral_eq, startsWith_cons_ne (by decide), startsWith_cons_ne (by decide),
    startsWith_cons_ne (by decide), startsWith_cons_ne (by decide), startsWith_cons_ne (by decide),
    startsWith_cons_self, startsWith_cons_ne h]

theorem pLiteral_null (rest : Str) : pLiteral ('n' :: 'u' :: 'l' :: 'l' :: rest) = some (.null, rest) := by
  rw [pLiteral_eq]
  simp only [startsWith_cons_self, startsWith_nil]

theorem pLiteral_true (rest : Str) : pLiteral ('t' :: 'r' :: 'u' :: 'e' :: rest) = some (.bool true, rest) := by
  rw [pLiteral_eq, startsWith_cons_ne (by decide)]
  simp only [startsWith_cons_self, startsWith_nil]

theorem pLiteral_false (rest : Str) : pLiteral ('f' :: 'a' :: 'l' :: 's' :: 'e' :: rest) = some (.bool false, rest) := by
  rw [pLiteral_eq, startsWith_cons_ne (by decide), startsWith_cons_ne (by decide)]
  simp only [startsWith_cons_self, startsWith_nil]

theorem pLiteral_digit (c : Char) (T : Str) (h : isDigit c = true) : pLiteral (c :: T) = none := by
  refine pLiteral_none c T fun hm => ?_
  simp only [List.mem_cons, List.not_mem_nil, or_false] at hm
  rcases hm with rfl | rfl | rfl | rfl | rfl | rfl <;> exact absurd h (by decide)

theorem pValue_scalar (f : Nat) {c : Char} (t : Str) (h1 : c ≠ '"') (h2 : c ≠ '{') (h3 : c ≠ '[') :
    pValue (f + 1) (c :: t) = match pLiteral (c :: t) with
      | some (v, r') => .ok v r'
      | none => pNumber (c :: t) := by
  rw [pValue, if_neg h1, if_neg h2, if_neg h3]
  rfl

theorem pValue_str (f : Nat) (r : Str) : pValue (f + 1) ('"' :: r) =
    match scanStr r [] with
    | .ok v r' => .ok (.str v) r'
    | .err => .err := by
  rw [pValue, if_pos rfl]
  rfl

theorem pValue_obj (f : Nat) (r : Str) : pValue (f + 1) ('{' :: r) =
    match skipWs r with
    | '}' :: r' => .ok (.obj []) r'
    | r' => pMembers f r' [] := by
  rw [pValue, if_neg (by decide), if_pos rfl]
  rfl

theorem pValue_arr (f : Nat) (r : Str) : pValue (f + 1) ('[' :: r) =
    match skipWs r with
    | ']' :: r' => .ok (.arr []) r'
    | r' => pElems f r' [] := by
  rw [pValue, if_neg (by decide), if_neg (by decide), if_pos rfl]
  rfl

theorem pValue_digit (f : Nat) (c : Char) (t : Str) (h : isDigit c = true) : pValue (f + 1) (c :: t) = pNumber (c :: t) := by
  have hne : ∀ d, isDigit d = false → c ≠ d := fun d => digit_ne c d h
  rw [pValue_scalar f t (hne _ (by decide)) (hne _ (by decide)) (hne _ (by decide)), pLiteral_digit c t h]

theorem pValue_minus_digit (f : Nat) (c : Char) (t : Str) (h : isDigit c = true) :
    pValue (f + 1) ('-' :: c :: t) = pNumber ('-' :: c :: t) := by
  rw [pValue_scalar f _ (by decide) (by decide) (by decide), pLiteral_minus c t fun e => absurd (e ▸ h) (by decide)]

theorem pValue_int (f : Nat) (i : Int) (rest : Str) (h : SepOK rest)
    (hl : (digitsOf i.natAbs).length ≤ INT_MAX_DIGITS) :
    pValue (f + 1) (dumpInt i ++ rest) = .ok (.int i) rest := by
  refine Eq.trans ?_ (pNumber_dumpInt i rest h hl)
  obtain ⟨d, r, e, hd⟩ := digitsOf_head i.natAbs
  unfold dumpInt
  rw [e]
  split
  · exact pValue_minus_digit f d _ hd
  · exact pValue_digit f d _ hd

theorem pValue_negZero (f : Nat) (rest : Str) (h : SepOK rest) :
    pValue (f + 1) ('-' :: '0' :: rest) = .ok (.int 0) rest :=
  (pValue_minus_digit f '0' rest (by decide)).trans (pDigits_digitsOf true 0 rest h (by decide))

/-! ### the text `dump` writes is ASCII (`ensure_ascii=True`) -/

theorem hexd_ascii : ∀ d, d < 16 → (hexd d).toNat < 128 := by decide

theorem uesc_ascii (n : Nat) : ∀ x ∈ uesc n, x.toNat < 128 := by
  intro x hx
  simp only [uesc, hex4, List.mem_cons, List.not_mem_nil, or_false] at hx
  rcases hx with rfl | rfl | rfl | rfl | rfl | rfl
  · decide
  · decide
  all_goals exact hexd_ascii _ (Nat.mod_lt _ (by decide))

theorem escChar_ascii (c : Nat) : ∀ x ∈ escChar c, x.toNat < 128 := by
  intro x hx
  rcases escChar_cases c with ⟨e, he, h⟩ | ⟨_, h2, _, _, h⟩ | ⟨_, h⟩ | ⟨_, _, h⟩ <;> rw [h] at hx
  · rcases List.mem_cons.mp hx with rfl | hx
    · decide
    · rw [List.mem_singleton.mp hx]; exact (shortEscapes_spec _ he).2.2
  · rw [List.mem_singleton.mp hx, Headers.toNat_ofNat_small c (by omega)]; omega
  · exact uesc_ascii _ x hx
  · rcases List.mem_append.mp hx with h | h <;> exact uesc_ascii _ x h

theorem dumpStr_ascii (s : CpStr) : ∀ x ∈ dumpStr s, x.toNat < 128 := by
  intro x hx
  simp only [dumpStr, List.mem_cons, List.mem_append, List.mem_flatMap, List.not_mem_nil, or_false] at hx
  rcases hx with rfl | ⟨c, _, hc⟩ | rfl
  · decide
  · exact escChar_ascii c x hc
  · decide

theorem dumpInt_ascii (i : Int) : ∀ x ∈ dumpInt i, x.toNat < 128 := by
  intro x hx
  unfold dumpInt at hx
  split at hx
  · rcases List.mem_cons.mp hx with rfl | h
    · decide
    · exact HeaderValue.digit_ascii x (digitsOf_isDigit _ x h)
  · exact HeaderValue.digit_ascii x (digitsOf_isDigit _ x hx)

theorem dumpTail_ascii (l : List J) (h : ∀ y ∈ l, ∀ x ∈ dump y, x.toNat < 128) : ∀ x ∈ dumpTail l, x.toNat < 128 := by
  induction l with
  | nil => decide
  | cons y ys ih =>
    rw [List.forall_mem_cons] at h
    simp only [dumpTail, List.forall_mem_cons, List.forall_mem_append]
    exact ⟨by decide, by decide, h.1, ih h.2⟩

theorem dumpMembers_ascii (l : List (CpStr × J)) (h : ∀ kv ∈ l, ∀ x ∈ dump kv.2, x.toNat < 128) :
    ∀ x ∈ dumpMembers l, x.toNat < 128 := by
  induction l with
  | nil => decide
  | cons kv r ih =>
    obtain ⟨k, v⟩ := kv
    rw [List.forall_mem_cons] at h
    simp only [dumpMembers, List.forall_mem_cons, List.forall_mem_append]
    exact ⟨by decide, by decide, dumpStr_ascii k, by decide, by decide, h.1, ih h.2⟩

theorem dump_ascii (v : J) : ∀ x ∈ dump v, x.toNat < 128 := by
  induction v using J.ind with
  | null => decide
  | bool b => cases b <;> decide
  | int i => exact dumpInt_ascii i
  | float => decide
  | str s => exact dumpStr_ascii s
  | arr l ih =>
    cases l with
    | nil => decide
    | cons y ys =>
      rw [List.forall_mem_cons] at ih
      simp only [dump, List.forall_mem_cons, List.forall_mem_append]
      exact ⟨by decide, ih.1, dumpTail_ascii ys ih.2⟩
  | obj l ih =>
    cases l with
    | nil => decide
    | cons kv r =>
      obtain ⟨k, w⟩ := kv
      rw [List.forall_mem_cons] at ih
      simp only [dump, List.forall_mem_cons, List.forall_mem_append]
      exact ⟨by decide, dumpStr_ascii k, by decide, by decide, ih.1, dumpMembers_ascii r ih.2⟩

end Poor.Json
