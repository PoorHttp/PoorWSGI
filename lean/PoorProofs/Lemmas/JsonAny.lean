import PoorProofs.Lemmas.Json
/-
Every spelling of a JSON value, not only the one `json.dumps` writes: the inductive family `Txt v s`
("`s` is a JSON text of `v`": white space between tokens, every escape style inside strings, repeated keys),
`loads_txt` (the parser reads each of them back to `v`) and `Txt_dump` (the family contains `dump v`).
-/
namespace Poor.Json
open Poor

def AllWs (w : Str) : Prop := ∀ c ∈ w, isWs c = true

/-- one code point of a string value as a client may write it: the character itself, a short escape
    (`\/` included), `\uXXXX` with hex digits of either case, or a surrogate pair of two such escapes -/
inductive CpEnc : Nat → Str → Prop
  | raw (c : Char) (h1 : 0x20 ≤ c.toNat) (h2 : c ≠ '"') (h3 : c ≠ '\\') : CpEnc c.toNat [c]
  | short (e : Char) (v : Nat) (he : e ≠ 'u') (hv : unesc e = some v) : CpEnc v ['\\', e]
  | u4 (n : Nat) (a b c d : Char) (h : hex4? [a, b, c, d] = some (n, [])) : CpEnc n ['\\', 'u', a, b, c, d]
  | pair (hi lo : Nat) (a b c d a' b' c' d' : Char) (hh : isHigh hi = true) (hl : isLow lo = true)
      (h1 : hex4? [a, b, c, d] = some (hi, [])) (h2 : hex4? [a', b', c', d'] = some (lo, [])) :
      CpEnc (joinSur hi lo) ['\\', 'u', a, b, c, d, '\\', 'u', a', b', c', d']

/-- the body of a string literal for the code points `s` (between the quotes) -/
inductive StrEnc : CpStr → Str → Prop
  | nil : StrEnc [] []
  | cons {c : Nat} {s : CpStr} {ec es : Str} : CpEnc c ec → StrEnc s es → StrEnc (c :: s) (ec ++ es)

theorem pairAt_CpEnc (u : Nat) {c : Nat} {ec : Str} (h : CpEnc c ec) (T : Str)
    (hnl : ¬ (isHigh u = true ∧ isLow c = true)) : pairAt u (ec ++ T) = some none := by
  cases h with
  | raw ch h1 h2 h3 => exact pairAt_no_esc u _ fun _ e => h3 (List.cons.inj e).1
  | short e v he hv => exact pairAt_no_esc u _ fun _ e' => he (List.cons.inj (List.cons.inj e').2).1
  | u4 n a b c' d hx => exact (pairAt_esc u (hex4?_append hx T)).trans (if_neg fun h => hnl ⟨h.1, h.2.2⟩)
  | pair hi lo a b c' d a' b' c'' d' hh hl h1 h2 =>
    -- the first escape of a pair is a high surrogate itself
    refine (pairAt_esc u (hex4?_append h1 _)).trans (if_neg fun h => ?_)
    simp only [isHigh, isLow, Bool.and_eq_true, decide_eq_true_eq] at hh h
    omega

/-- (`hp`: the code point is not joined with what follows; only a lone `\uXXXX` can be, so only `u4` uses it) -/
theorem scanStr_CpEnc {c : Nat} {ec : Str} (h : CpEnc c ec) (T : Str) (hT : T ≠ []) (hp : pairAt c T = some none)
    (acc : CpStr) : scanStr (ec ++ T) acc = scanStr T (c :: acc) := by
  cases h with
  | raw ch h1 h2 h3 => exact scanStr_raw ch h1 h2 h3 T acc
  | short e v he hv => exact scanStr_short e c he hv T acc
  | u4 n a b c' d hx =>
    show scanStr ('\\' :: 'u' :: a :: b :: c' :: d :: T) acc = _
    rw [scanStr_u (hex4?_append hx T) hT, hp]
  | pair hi lo a b c' d a' b' c'' d' hh hl h1 h2 =>
    show scanStr ('\\' :: 'u' :: a :: b :: c' :: d :: '\\' :: 'u' :: a' :: b' :: c'' :: d' :: T) acc = _
    rw [scanStr_u (hex4?_append h1 _) (List.cons_ne_nil _ _), pairAt_esc hi (hex4?_append h2 T), if_pos ⟨hh, hT, hl⟩]

theorem CpEnc_ne_nil {c : Nat} {ec : Str} (h : CpEnc c ec) : ec ≠ [] := by
  cases h <;> simp

theorem scanStr_enc {s : CpStr} {es : Str} (h : StrEnc s es) : ∀ (acc : CpStr) (rest : Str), NoPair s →
    scanStr (es ++ '"' :: rest) acc = .ok (acc.reverse ++ s) rest := by
  induction h with
  | nil => intro acc rest _; rw [scanStr.eq_def]; simp
  | @cons c s ec es hc hs ih =>
    intro acc rest hnp
    have hnp' : NoPair s := by
      cases s with
      | nil => trivial
      | cons b r => exact hnp.2
    -- what follows a lone high surrogate never starts with the escape of a low one
    have hpa : pairAt c (es ++ '"' :: rest) = some none := by
      cases hs with
      | nil => exact pairAt_no_esc c _ fun _ e => absurd (List.cons.inj e).1 (by decide)
      | @cons b r eb er hb hr => rw [List.append_assoc]; exact pairAt_CpEnc c hb _ hnp.1
    rw [List.append_assoc, scanStr_CpEnc hc _ (by cases es <;> simp) hpa, ih (c :: acc) rest hnp']
    simp

def dsetp (d : List (CpStr × J)) (kv : CpStr × J) : List (CpStr × J) := dset d kv.1 kv.2

mutual
/-- **a JSON text of the value `v`**: any white space between tokens, any spelling of the strings, integers as
    `str(int)` writes them (and `-0`), repeated keys (the last one wins, at the place of the first) -/
inductive Txt : J → Str → Prop
  | null : Txt .null ['n', 'u', 'l', 'l']
  | tru : Txt (.bool true) ['t', 'r', 'u', 'e']
  | fls : Txt (.bool false) ['f', 'a', 'l', 's', 'e']
  | int (i : Int) (h : (digitsOf i.natAbs).length ≤ INT_MAX_DIGITS) : Txt (.int i) (dumpInt i)
  | negZero : Txt (.int 0) ['-', '0']
  | str {s : CpStr} {es : Str} : StrEnc s es → NoPair s → Txt (.str s) ('"' :: (es ++ ['"']))
  | arrNil (w : Str) (hw : AllWs w) : Txt (.arr []) ('[' :: (w ++ [']']))
  | arr {l : List J} {t : Str} (w : Str) (hw : AllWs w) : Elems l t → Txt (.arr l) ('[' :: (w ++ t))
  | objNil (w : Str) (hw : AllWs w) : Txt (.obj []) ('{' :: (w ++ ['}']))
  | obj {ps : List (CpStr × J)} {t : Str} (w : Str) (hw : AllWs w) : Membs ps t →
      Txt (.obj (ps.foldl dsetp [])) ('{' :: (w ++ t))
/-- behind `[` and its white space: `value ws (, ws value ws)* ]` -/
inductive Elems : List J → Str → Prop
  | last {v : J} {s : Str} (w : Str) (hw : AllWs w) : Txt v s → Elems [v] (s ++ (w ++ [']']))
  | more {v : J} {s : Str} {l : List J} {t : Str} (w1 w2 : Str) (h1 : AllWs w1) (h2 : AllWs w2) :
      Txt v s → Elems l t → Elems (v :: l) (s ++ (w1 ++ ',' :: (w2 ++ t)))
/-- behind `{` and its white space: `"key" ws : ws value ws (, ws "key" ...)* }` -/
inductive Membs : List (CpStr × J) → Str → Prop
  | last {k : CpStr} {ek : Str} {v : J} {s : Str} (w1 w2 w3 : Str) (h1 : AllWs w1) (h2 : AllWs w2) (h3 : AllWs w3) :
      StrEnc k ek → NoPair k → Txt v s →
      Membs [(k, v)] ('"' :: (ek ++ '"' :: (w1 ++ ':' :: (w2 ++ (s ++ (w3 ++ ['}']))))))
  | more {k : CpStr} {ek : Str} {v : J} {s : Str} {ps : List (CpStr × J)} {t : Str} (w1 w2 w3 w4 : Str)
      (h1 : AllWs w1) (h2 : AllWs w2) (h3 : AllWs w3) (h4 : AllWs w4) :
      StrEnc k ek → NoPair k → Txt v s → Membs ps t →
      Membs ((k, v) :: ps) ('"' :: (ek ++ '"' :: (w1 ++ ':' :: (w2 ++ (s ++ (w3 ++ ',' :: (w4 ++ t)))))))
end

theorem Txt_head {v : J} {s : Str} (h : Txt v s) : ∃ c r, s = c :: r ∧ HeadOK c := by
  cases h with
  | int i _ => exact dumpInt_head i
  | _ => exact ⟨_, _, rfl, by decide⟩

theorem Elems_head {l : List J} {t : Str} (h : Elems l t) : ∃ c r, t = c :: r ∧ HeadOK c := by
  cases h with
  | last w hw hv => obtain ⟨c, r, e, hc⟩ := Txt_head hv; exact ⟨c, r ++ (w ++ [']']), by rw [e]; rfl, hc⟩
  | more w1 w2 h1 h2 hv hl => obtain ⟨c, r, e, hc⟩ := Txt_head hv; exact ⟨c, _, by rw [e]; rfl, hc⟩

theorem Membs_head {l : List (CpStr × J)} {t : Str} (h : Membs l t) : ∃ r, t = '"' :: r := by
  cases h <;> exact ⟨_, rfl⟩

theorem numCont_ws (c : Char) (h : isWs c = true) : numCont c = false := by
  simp only [isWs, Bool.or_eq_true, decide_eq_true_eq] at h
  rcases h with ((rfl | rfl) | rfl) | rfl <;> decide

theorem sepOK_ws (w : Str) (c : Char) (X : Str) (hw : AllWs w) (hc : numCont c = false) : SepOK (w ++ c :: X) := by
  intro a r h
  cases w with
  | nil => cases h; exact hc
  | cons b w => cases h; exact numCont_ws _ (hw _ List.mem_cons_self)

theorem skipWs_ws (w : Str) (c : Char) (X : Str) (hw : AllWs w) (hc : isWs c = false) :
    skipWs (w ++ c :: X) = c :: X :=
  List.dropWhile_append_cons hw hc

theorem skipWs_ws_txt {v : J} {s : Str} (h : Txt v s) (w X : Str) (hw : AllWs w) : skipWs (w ++ (s ++ X)) = s ++ X := by
  obtain ⟨c, r, rfl, hc⟩ := Txt_head h
  exact skipWs_ws w c _ hw hc.1

theorem pElems_step {f : Nat} {s w X : Str} {c : Char} {v : J} (acc : List J)
    (hv : pValue f (s ++ (w ++ c :: X)) = .ok v (w ++ c :: X)) (hw : AllWs w) (hc : isWs c = false) :
    pElems (f + 1) (s ++ (w ++ c :: X)) acc =
      if c = ']' then .ok (.arr (acc.reverse ++ [v])) X
      else if c = ',' then pElems f (skipWs X) (v :: acc) else .err := by
  simp only [pElems, hv, skipWs_ws w c X hw hc]

theorem pMembers_step {f : Nat} {k : CpStr} {ek w1 w2 s w3 X : Str} {c : Char} {v : J} (acc : List (CpStr × J))
    (hk : StrEnc k ek) (hn : NoPair k) (h1 : AllWs w1) (h2 : AllWs w2) (h3 : AllWs w3) (ht : Txt v s)
    (hv : pValue f (s ++ (w3 ++ c :: X)) = .ok v (w3 ++ c :: X)) (hc : isWs c = false) :
    pMembers (f + 1) ('"' :: (ek ++ '"' :: (w1 ++ ':' :: (w2 ++ (s ++ (w3 ++ c :: X)))))) acc =
      if c = '}' then .ok (.obj (dset acc k v)) X
      else if c = ',' then pMembers f (skipWs X) (dset acc k v) else .err := by
  simp only [pMembers, scanStr_enc hk [] _ hn, List.reverse_nil, List.nil_append, skipWs_ws w1 ':' _ h1 (by decide),
    skipWs_ws_txt ht w2 _ h2, hv, skipWs_ws w3 c X h3 hc]

/-- the parser reads every spelling; by induction on the fuel, since each rule of the three families hands its
    parts to a parser that runs with less -/
theorem parse_txt (f : Nat) :
    (∀ {v : J} {s : Str}, Txt v s → ∀ rest, s.length ≤ f → SepOK rest → pValue f (s ++ rest) = .ok v rest) ∧
    (∀ {l : List J} {t : Str}, Elems l t → ∀ rest acc, t.length ≤ f →
      pElems f (t ++ rest) acc = .ok (.arr (acc.reverse ++ l)) rest) ∧
    (∀ {ps : List (CpStr × J)} {t : Str}, Membs ps t → ∀ rest acc, t.length ≤ f →
      pMembers f (t ++ rest) acc = .ok (.obj (ps.foldl dsetp acc)) rest) := by
  induction f with
  | zero =>
    refine ⟨fun h _ hf => ?_, fun h _ _ hf => ?_, fun h _ _ hf => ?_⟩
    · obtain ⟨c, r, rfl, _⟩ := Txt_head h; exact absurd hf (Nat.not_succ_le_zero _)
    · obtain ⟨c, r, rfl, _⟩ := Elems_head h; exact absurd hf (Nat.not_succ_le_zero _)
    · obtain ⟨r, rfl⟩ := Membs_head h; exact absurd hf (Nat.not_succ_le_zero _)
  | succ f ih =>
    obtain ⟨ihv, ihe, ihm⟩ := ih
    refine ⟨fun h rest hf hs => ?_, fun h rest acc hf => ?_, fun h rest acc hf => ?_⟩
    · cases h with
      | null =>
        simp only [List.cons_append, List.nil_append]
        rw [pValue_scalar f _ (by decide) (by decide) (by decide), pLiteral_null]
      | tru =>
        simp only [List.cons_append, List.nil_append]
        rw [pValue_scalar f _ (by decide) (by decide) (by decide), pLiteral_true]
      | fls =>
        simp only [List.cons_append, List.nil_append]
        rw [pValue_scalar f _ (by decide) (by decide) (by decide), pLiteral_false]
      | int i h => exact pValue_int f i rest hs h
      | negZero => exact pValue_negZero f rest hs
      | str he hn =>
        simp only [List.cons_append, List.append_assoc, List.nil_append]
        rw [pValue_str, scanStr_enc he [] rest hn]
        rfl
      | arrNil w hw =>
        simp only [List.cons_append, List.append_assoc, List.nil_append]
        rw [pValue_arr, skipWs_ws w ']' rest hw (by decide)]
        rfl
      | arr w hw he =>
        have ih := ihe he rest [] (by simp only [List.length_cons, List.length_append] at hf; omega)
        obtain ⟨c, r, rfl, hc⟩ := Elems_head he
        simp only [List.cons_append, List.append_assoc]
        rw [pValue_arr, skipWs_ws w c _ hw hc.1]
        split
        · rename_i heq; simp only [List.cons.injEq] at heq; exact absurd heq.1 hc.2.1
        · exact ih
      | objNil w hw =>
        simp only [List.cons_append, List.append_assoc, List.nil_append]
        rw [pValue_obj, skipWs_ws w '}' rest hw (by decide)]
        rfl
      | obj w hw hm =>
        have ih := ihm hm rest [] (by simp only [List.length_cons, List.length_append] at hf; omega)
        obtain ⟨r, rfl⟩ := Membs_head hm
        simp only [List.cons_append, List.append_assoc]
        rw [pValue_obj, skipWs_ws w '"' _ hw (by decide)]
        exact ih
    · cases h with
      | last w hw hv =>
        have ih := ihv hv (w ++ ']' :: rest) (by simp only [List.length_append, List.length_cons] at hf; omega)
          (sepOK_ws w ']' rest hw (by decide))
        simp only [List.append_assoc, List.cons_append, List.nil_append]
        rw [pElems_step acc ih hw (by decide), if_pos rfl]
      | @more v _ _ t w1 w2 h1 h2 hv hl =>
        simp only [List.length_append, List.length_cons] at hf
        have ih1 := ihv hv (w1 ++ ',' :: (w2 ++ (t ++ rest))) (by omega) (sepOK_ws w1 ',' _ h1 (by decide))
        have ih2 := ihe hl rest (v :: acc) (by omega)
        obtain ⟨c, r, rfl, hc⟩ := Elems_head hl
        simp only [List.append_assoc, List.cons_append] at ih1 ih2 ⊢
        rw [pElems_step acc ih1 h1 (by decide), if_neg (by decide), if_pos rfl, skipWs_ws w2 c _ h2 hc.1, ih2]
        simp
    · cases h with
      | last w1 w2 w3 h1 h2 h3 hk hn hv =>
        have ih := ihv hv (w3 ++ '}' :: rest) (by simp only [List.length_append, List.length_cons] at hf; omega)
          (sepOK_ws w3 '}' rest h3 (by decide))
        simp only [List.append_assoc, List.cons_append, List.nil_append]
        rw [pMembers_step acc hk hn h1 h2 h3 hv ih (by decide), if_pos rfl]
        rfl
      | @more k _ v _ _ t w1 w2 w3 w4 h1 h2 h3 h4 hk hn hv hm =>
        simp only [List.length_append, List.length_cons] at hf
        have ih1 := ihv hv (w3 ++ ',' :: (w4 ++ (t ++ rest))) (by omega) (sepOK_ws w3 ',' _ h3 (by decide))
        have ih2 := ihm hm rest (dset acc k v) (by omega)
        obtain ⟨r, rfl⟩ := Membs_head hm
        simp only [List.append_assoc, List.cons_append] at ih1 ih2 ⊢
        rw [pMembers_step acc hk hn h1 h2 h3 hv ih1 (by decide), if_neg (by decide), if_pos rfl,
          skipWs_ws w4 '"' _ h4 (by decide), ih2]
        rfl

theorem pValue_txt {v : J} {s : Str} (h : Txt v s) (f : Nat) (rest : Str) (hf : s.length ≤ f) (hs : SepOK rest) :
    pValue f (s ++ rest) = .ok v rest :=
  (parse_txt f).1 h rest hf hs

theorem pElems_txt : ∀ {l : List J} {t : Str}, Elems l t → ∀ (f : Nat) (rest : Str) (acc : List J), t.length ≤ f →
    pElems f (t ++ rest) acc = .ok (.arr (acc.reverse ++ l)) rest :=
  fun h f rest acc hf => (parse_txt f).2.1 h rest acc hf

theorem pMembers_txt : ∀ {ps : List (CpStr × J)} {t : Str}, Membs ps t → ∀ (f : Nat) (rest : Str)
    (acc : List (CpStr × J)), t.length ≤ f → pMembers f (t ++ rest) acc = .ok (.obj (ps.foldl dsetp acc)) rest :=
  fun h f rest acc hf => (parse_txt f).2.2 h rest acc hf

/-- **`json.loads` reads every spelling of a value**: white space around and between the tokens, any escape
    style inside strings, repeated keys - the value is the one the text denotes -/
theorem loads_txt {v : J} {s : Str} (h : Txt v s) (w1 w2 : Str) (h1 : AllWs w1) (h2 : AllWs w2) :
    loads (w1 ++ (s ++ w2)) = some v := by
  unfold loads
  have hbom : (w1 ++ (s ++ w2)).head? ≠ some (Char.ofNat 0xFEFF) := by
    intro hb
    cases w1 with
    | nil =>
      obtain ⟨c, r, rfl, hc⟩ := Txt_head h
      cases hb
      exact absurd hc.2.2 (by decide)
    | cons a w =>
      cases hb
      exact absurd (h1 _ List.mem_cons_self) (by decide)
  have hsep : SepOK w2 := fun c r e => numCont_ws c (h2 c (e ▸ List.mem_cons_self))
  rw [if_neg hbom, skipWs_ws_txt h w1 w2 h1, pValue_txt h _ w2 (by simp only [List.length_append]; omega) hsep]
  exact if_pos (List.dropWhile_of_all h2)

theorem allWs_nil : AllWs [] := fun _ h => nomatch h

theorem allWs_blank : AllWs [' '] := by intro c hc; rw [List.mem_singleton.mp hc]; decide

theorem CpEnc_escChar (c : Nat) (hc : c < 0x110000) : CpEnc c (escChar c) := by
  rcases escChar_cases c with ⟨e, he, h⟩ | ⟨h1, h2, h3, h4, h⟩ | ⟨h9, h⟩ | ⟨m, rfl, h⟩ <;> rw [h]
  · exact .short e c (shortEscapes_spec _ he).1 (shortEscapes_spec _ he).2.1
  · have hn := Headers.toNat_ofNat_small c (Nat.lt_of_le_of_lt h2 (by decide))
    have hne : ∀ d : Char, c ≠ d.toNat → Char.ofNat c ≠ d := fun d hd e => hd (by rw [← e, hn])
    have := CpEnc.raw (Char.ofNat c) (by rw [hn]; exact h1) (hne _ h3) (hne _ h4)
    rwa [hn] at this
  · exact .u4 c _ _ _ _ (hex4?_hex4 c h9 [])
  · obtain ⟨hh, hl, h1, h2, hj⟩ := surrogates m (by omega)
    exact hj ▸ CpEnc.pair _ _ _ _ _ _ _ _ _ _ hh hl (hex4?_hex4 _ h1 []) (hex4?_hex4 _ h2 [])

theorem StrEnc_flatMap (s : CpStr) (h : ∀ c ∈ s, c < 0x110000) : StrEnc s (s.flatMap escChar) := by
  induction s with
  | nil => exact StrEnc.nil
  | cons c s ih =>
    rw [List.flatMap_cons]
    exact StrEnc.cons (CpEnc_escChar c (h c List.mem_cons_self)) (ih (fun x hx => h x (List.mem_cons_of_mem _ hx)))

theorem Elems_dump (x : J) (l : List J) (h : ∀ y ∈ x :: l, Txt y (dump y)) : Elems (x :: l) (dump x ++ dumpTail l) := by
  rw [List.forall_mem_cons] at h
  induction l generalizing x with
  | nil => exact .last [] allWs_nil h.1
  | cons y ys ih => exact .more [] [' '] allWs_nil allWs_blank h.1 (ih y (List.forall_mem_cons.mp h.2))

theorem dumpStr_append (k : CpStr) (X : Str) : dumpStr k ++ X = '"' :: (k.flatMap escChar ++ '"' :: X) := by
  simp [dumpStr]

theorem Membs_dump : ∀ (k : CpStr) (v : J) (l : List (CpStr × J)), (∀ kv ∈ (k, v) :: l, StrOK kv.1 ∧ Txt kv.2 (dump kv.2)) →
    Membs ((k, v) :: l) (dumpStr k ++ ':' :: ' ' :: (dump v ++ dumpMembers l))
  | k, v, [], h => by
    obtain ⟨hk, hv⟩ := h _ List.mem_cons_self
    rw [dumpStr_append]
    exact .last [] [' '] [] allWs_nil allWs_blank allWs_nil (StrEnc_flatMap k hk.1) hk.2 hv
  | k, v, (k', v') :: r, h => by
    obtain ⟨⟨hk, hv⟩, hr⟩ := List.forall_mem_cons.mp h
    rw [dumpStr_append]
    exact .more [] [' '] [] [' '] allWs_nil allWs_blank allWs_nil allWs_blank (StrEnc_flatMap k hk.1) hk.2 hv
      (Membs_dump k' v' r hr)

/-- **what `json.dumps` writes is one of the spellings** -/
theorem Txt_dump (v : J) : JOk v → Txt v (dump v) := by
  induction v using J.ind with
  | null => intro _; exact .null
  | bool b => intro _; cases b; exact .fls; exact .tru
  | int i => exact .int i
  | float => exact False.elim
  | str s => intro h; exact .str (StrEnc_flatMap s h.1) h.2
  | arr l ih =>
    intro h
    cases l with
    | nil => exact .arrNil [] allWs_nil
    | cons x xs => exact .arr [] allWs_nil (Elems_dump x xs fun y hy => ih y hy ((JOks_iff _).mp h y hy))
  | obj l ih =>
    intro h
    cases l with
    | nil => exact .objNil [] allWs_nil
    | cons kv r =>
      obtain ⟨k, w⟩ := kv
      have hm := (MOk_iff _).mp h.1
      have := Txt.obj [] allWs_nil (Membs_dump k w r fun kv hkv => ⟨(hm kv hkv).1, ih kv hkv (hm kv hkv).2⟩)
      rwa [List.foldl_append_fresh (f := dsetp) Prod.fst (fun d kv => dset_fresh d kv.1 kv.2) [] _ h.2] at this

theorem scanStr_tail (s : CpStr) : ∀ (acc : CpStr) (rest : Str), StrOK s →
    scanStr (tailText s rest) acc = .ok (acc.reverse ++ s) rest :=
  fun acc rest h => scanStr_enc (StrEnc_flatMap s h.1) acc rest h.2

theorem roundtrip_value (v : J) : JOk v → ∀ f rest, (dump v).length ≤ f → SepOK rest →
    pValue f (dump v ++ rest) = .ok v rest :=
  fun h => pValue_txt (Txt_dump v h)

/-- non-vacuity with a text `json.dumps` would not write: `[ 1 ,"é\/" ]` is a spelling of `[1, "é/"]` -/
example : Txt (.arr [.int 1, .str [0xE9, 0x2F]])
    ("[ 1 ,\"\\u00E9\\/\" ]".toList) := by
  simp only [String.reduceToList]
  have hs : StrEnc [0xE9, 0x2F] ['\\', 'u', '0', '0', 'E', '9', '\\', '/'] :=
    .cons (.u4 0xE9 '0' '0' 'E' '9' (by decide)) (.cons (.short '/' 0x2F (by decide) (by decide)) .nil)
  exact .arr [' '] allWs_blank (.more [' '] [] allWs_blank allWs_nil (.int 1 (by decide))
    (.last [' '] allWs_blank (.str hs (by simp [NoPair, isHigh]))))

end Poor.Json
