import PoorModel.Multipart
import PoorProofs.Lemmas.HeaderValue
import PoorProofs.Lemmas.Transcode
/-
Property C08, what holds whatever reader delivers the lines.  Each loop of the parser is followed one line at a
time: once the line a reader has returned is known (`*_succ`), what the loop makes of it is a fact about bytes
alone - the invariant `Carry` for a line of content, `parseHeaderLine_render` for a header line.  The specification
is here too: the encoder (`EPart`, `encode`), the parts it is asked about (`PartOK`) and what the parser must return
(`expected`).  Which lines a reader returns is the subject of `MultipartG.lean`.
-/
namespace Poor.Multipart
open Poor

theorem rstrip_prefix (l : Bytes) : rstrip l <+: l := by
  unfold rstrip
  have h := List.dropWhile_suffix isWs (l := l.reverse)
  have := List.reverse_prefix.mpr h
  simpa using this

theorem rstrip_append_ws (l : Bytes) (w : UInt8) (hw : isWs w = true) : rstrip (l ++ [w]) = rstrip l := by
  unfold rstrip
  simp [hw]

theorem rstrip_self (l : Bytes) (x : UInt8) (hx : isWs x = false) : rstrip (l ++ [x]) = l ++ [x] := by
  unfold rstrip
  simp [hx]

theorem endsWith_iff {l suf : Bytes} : endsWith l suf = true ↔ ∃ t, l = t ++ suf := by
  unfold endsWith
  rw [List.isSuffixOf_iff_suffix]
  exact exists_congr fun _ => eq_comm

theorem stripEnd_cases (l : Bytes) :
    (∃ t, l = t ++ [CR, LF] ∧ stripEnd l = (t, [CR, LF], true)) ∨
    (∃ t, l = t ++ [LF] ∧ stripEnd l = (t, [LF], true)) ∨
    (∃ t, l = t ++ [CR] ∧ stripEnd l = (t, [CR], false)) ∨
    (l.getLast? ≠ some CR ∧ stripEnd l = (l, [], false)) := by
  by_cases h1 : endsWith l [CR, LF] = true
  · obtain ⟨t, rfl⟩ := endsWith_iff.1 h1
    exact .inl ⟨t, rfl, by rw [stripEnd, if_pos h1]; simp⟩
  · by_cases h2 : endsWith l [LF] = true
    · obtain ⟨t, rfl⟩ := endsWith_iff.1 h2
      exact .inr (.inl ⟨t, rfl, by rw [stripEnd, if_neg h1, if_pos h2]; simp⟩)
    · by_cases h3 : endsWith l [CR] = true
      · obtain ⟨t, rfl⟩ := endsWith_iff.1 h3
        exact .inr (.inr (.inl ⟨t, rfl, by rw [stripEnd, if_neg h1, if_neg h2, if_pos h3]; simp⟩))
      · exact .inr (.inr (.inr ⟨fun hl => h3 (endsWith_iff.2 (List.getLast?_eq_some_iff.1 hl)),
          by rw [stripEnd, if_neg h1, if_neg h2, if_neg h3]⟩))

theorem stripEnd_split (l : Bytes) : (stripEnd l).1 ++ (stripEnd l).2.1 = l := by
  rcases stripEnd_cases l with ⟨t, rfl, h⟩ | ⟨t, rfl, h⟩ | ⟨t, rfl, h⟩ | ⟨_, h⟩ <;> simp [h]

theorem stripEnd_delim (l : Bytes) :
    (stripEnd l).2.1 = [CR, LF] ∨ (stripEnd l).2.1 = [LF] ∨ (stripEnd l).2.1 = [CR] ∨ (stripEnd l).2.1 = [] := by
  rcases stripEnd_cases l with ⟨t, _, h⟩ | ⟨t, _, h⟩ | ⟨t, _, h⟩ | ⟨_, h⟩ <;> simp [h]

theorem stripEnd_crlf (t : Bytes) : stripEnd (t ++ [CR, LF]) = (t, [CR, LF], true) := by
  unfold stripEnd
  rw [if_pos (endsWith_iff.2 ⟨t, rfl⟩)]
  simp

theorem stripEnd_cr (l : Bytes) (h : (stripEnd l).2.1 = [CR]) : l.getLast? = some CR := by
  have := stripEnd_split l
  rw [h] at this
  rw [← this]; simp

theorem stripEnd_nodelim (l : Bytes) (h : (stripEnd l).2.1 = []) :
    (stripEnd l).1 = l ∧ l.getLast? ≠ some CR := by
  rcases stripEnd_cases l with ⟨t, _, e⟩ | ⟨t, _, e⟩ | ⟨t, _, e⟩ | ⟨hl, e⟩
  · rw [e] at h; cases h
  · rw [e] at h; cases h
  · rw [e] at h; cases h
  · exact ⟨by rw [e], hl⟩

theorem rstrip_append {d e : Bytes} (hd : ∀ x, d.getLast? = some x → isWs x = false)
    (he : ∀ x ∈ e, isWs x = true) : rstrip (d ++ e) = d := by
  unfold rstrip
  rw [List.reverse_append, List.dropWhile_append_stop (by simpa using he) (by simpa using hd), List.reverse_reverse]

theorem infix_of_infix_concat {l x : Bytes} {y : UInt8} (h : l <:+: x ++ [y]) (hy : y ∉ l) : l <:+: x := by
  rcases List.infix_concat_iff.1 h with h | h
  · rcases List.suffix_concat_iff.1 h with rfl | ⟨t, rfl, _⟩
    · exact List.nil_infix
    · exact absurd (by simp) hy
  · exact h

/-- what the parser needs of a delimiter `nb = "--" ++ boundary` -/
structure BOk (nb : Bytes) : Prop where
  dash : nb.take 2 = [DASH, DASH]
  last : ∃ p x, nb = p ++ [x] ∧ isWs x = false
  nocr : CR ∉ nb
  nolf : LF ∉ nb
  short : nb.length + 4 ≤ LINE_CAP

theorem BOk.last_nonws {nb : Bytes} (hb : BOk nb) : ∀ x, nb.getLast? = some x → isWs x = false := by
  obtain ⟨q, z, rfl, hz⟩ := hb.last
  rw [List.getLast?_concat]
  rintro _ ⟨⟩
  exact hz

theorem take2_append (nb r : Bytes) (h : nb.take 2 = [DASH, DASH]) : (nb ++ r).take 2 = [DASH, DASH] := by
  match nb, h with
  | a :: b :: t, h => simpa using h

/-- the delimiter is not found inside the content, nor across its end -/
theorem no_hit (nb c post l : Bytes) (hb : BOk nb) (hno : ¬ nb <:+: c) (hpost : post <:+: c ++ [CR, LF])
    (hl : l <+: post) (x : Bytes) (hx : nb <+: x) (hr : x <+: l) : False := by
  apply hno
  have h1 : nb <:+: c ++ [CR, LF] := ((hx.trans hr).trans hl).isInfix.trans hpost
  have h2 : nb <:+: (c ++ [CR]) ++ [LF] := by simpa using h1
  have h3 := infix_of_infix_concat h2 hb.nolf
  exact infix_of_infix_concat h3 hb.nocr

section
variable {R : Type} {rd : Rd R} {r r' : R} {l : Bytes}

theorem readLines_succ {nb lb : Bytes} {fuel : Nat} {st : PS} (hl : rd.line (some LINE_CAP) r = (l, r'))
    (hne : l ≠ []) :
    readLines rd nb lb (fuel + 1) st r =
      (let l1 := if st.delim = [CR] then CR :: l else l
       let d0 := if st.delim = [CR] then [] else st.delim
       if l1.take 2 = [DASH, DASH] ∧ st.lfend = true ∧ rstrip l1 = nb then (st.out, .next, r')
       else if l1.take 2 = [DASH, DASH] ∧ st.lfend = true ∧ rstrip l1 = lb then (st.out, .last, r')
       else readLines rd nb lb fuel (absorb st l1 d0) r') := by
  rw [readLines, hl]
  cases l with
  | nil => exact absurd rfl hne
  | cons x xs => rfl

theorem headerLines_succ {fuel : Nat} (hl : rd.line none r = (l, r')) (hne : l ≠ []) :
    headerLines rd (fuel + 1) r =
      if (strip l).isEmpty then ([l], r')
      else (l :: (headerLines rd fuel r').1, (headerLines rd fuel r').2) := by
  rw [headerLines, hl]
  cases l with
  | nil => exact absurd rfl hne
  | cons x xs => rfl

theorem skipToBoundary_succ {ib : Bytes} {fuel : Nat} (hl : rd.line none r = (l, r')) (hne : l ≠ []) :
    skipToBoundary rd ib (fuel + 1) r =
      if strip l = DASH :: DASH :: ib then r' else skipToBoundary rd ib fuel r' := by
  rw [skipToBoundary, hl]
  cases l with
  | nil => exact absurd rfl hne
  | cons x xs => rfl

end

/-- The invariant of `read_lines_to_outerboundary` in front of the delimiter line.  Of the text
    `c CRLF` the piece `post` has not been read yet; what was read has been written out, except for
    the line end that is held back until the next line is seen. -/
structure Carry (c : Bytes) (st : PS) (post : Bytes) : Prop where
  text : st.out ++ st.delim ++ post = c ++ [CR, LF]
  atEnd : post = [] → st.delim = [CR, LF] ∧ st.lfend = true
  nocr : st.delim = [] → st.out.getLast? ≠ some CR
  delim : st.delim = [CR, LF] ∨ st.delim = [LF] ∨ st.delim = [CR] ∨ st.delim = []

theorem Carry.init (c : Bytes) : Carry c ⟨[], [], true⟩ (c ++ [CR, LF]) :=
  ⟨rfl, fun h => by simp at h, fun _ => by simp, .inr (.inr (.inr rfl))⟩

theorem Carry.out_eq {c : Bytes} {st : PS} (h : Carry c st []) : st.out = c := by
  have h1 := h.text
  rw [(h.atEnd rfl).1, List.append_nil] at h1
  exact List.append_cancel_right h1

theorem Carry.post_cases {c : Bytes} {st : PS} {post : Bytes} (h : Carry c st post) (hp : post ≠ []) :
    (∃ a, post = a ++ [CR, LF]) ∨ post = [LF] := by
  by_cases h2 : 2 ≤ post.length
  · obtain ⟨a, ha⟩ : [CR, LF] <:+ post :=
      List.suffix_of_suffix_length_le ⟨c, h.text.symm⟩ (List.suffix_append _ _) h2
    exact Or.inl ⟨a, ha.symm⟩
  · obtain ⟨x, rfl⟩ := List.length_eq_one_iff.mp
      (show post.length = 1 by have := List.length_pos_iff.mpr hp; omega)
    have := List.append_inj_right' (show st.out ++ st.delim ++ [x] = (c ++ [CR]) ++ [LF] by simpa using h.text) rfl
    exact Or.inr this

/-- when only the LF of the final CRLF is left, its CR is the line end held back -/
theorem Carry.delim_cr {c : Bytes} {st : PS} (h : Carry c st [LF]) : st.delim = [CR] := by
  have hw := congrArg List.getLast?
    (List.append_inj_left' (show st.out ++ st.delim ++ [LF] = (c ++ [CR]) ++ [LF] by simpa using h.text) rfl)
  rcases h.delim with hd | hd | hd | hd
  · simp [hd, CR, LF] at hw
  · simp [hd, CR, LF] at hw
  · exact hd
  · rw [hd, List.append_nil] at hw
    exact absurd (by simpa using hw) (h.nocr hd)

theorem Carry.absorb {c : Bytes} {st : PS} {l t : Bytes} (h : Carry c st (l ++ t)) (hl : l ≠ []) :
    Carry c (absorb st (if st.delim = [CR] then CR :: l else l) (if st.delim = [CR] then [] else st.delim)) t := by
  have hglue : (if st.delim = [CR] then [] else st.delim) ++ (if st.delim = [CR] then CR :: l else l)
      = st.delim ++ l := by
    split <;> simp [*]
  have hlen : l.length ≤ (if st.delim = [CR] then CR :: l else l).length := by
    split <;> simp
  have hcr : st.delim = [CR] → l.length < (if st.delim = [CR] then CR :: l else l).length := by
    intro hd; rw [if_pos hd]; simp
  generalize (if st.delim = [CR] then CR :: l else l) = l1 at hglue hlen hcr
  generalize (if st.delim = [CR] then [] else st.delim) = d0 at hglue
  have hl1ne : l1 ≠ [] := by
    intro h0; rw [h0] at hlen; exact hl (List.length_eq_zero_iff.mp (by simpa using hlen))
  have hall : st.out ++ d0 ++ l1 ++ t = c ++ [CR, LF] := by
    rw [List.append_assoc st.out, hglue, ← h.text]; simp
  refine ⟨?_, ?_, ?_, stripEnd_delim l1⟩
  · simp only [Multipart.absorb]
    rw [List.append_assoc _ (stripEnd l1).1, stripEnd_split, hall]
  · intro ht
    subst ht
    rw [List.append_nil] at h hall
    -- the last line holds the whole CRLF: if only the LF was left, its CR was held back and is glued to it
    have h2 : 2 ≤ l1.length := by
      rcases h.post_cases hl with ⟨a, rfl⟩ | rfl
      · simp at hlen; omega
      · have := hcr h.delim_cr; simp at this; omega
    obtain ⟨a, rfl⟩ : [CR, LF] <:+ l1 :=
      List.suffix_of_suffix_length_le ⟨c, hall.symm⟩ (List.suffix_append _ _) h2
    simp [Multipart.absorb, stripEnd_crlf]
  · intro hdn
    simp only [Multipart.absorb] at hdn ⊢
    obtain ⟨h1, h2⟩ := stripEnd_nodelim l1 hdn
    rw [h1, List.getLast?_append_of_ne_nil _ hl1ne]
    exact h2

theorem Carry.no_false_hit {nb c : Bytes} {st : PS} {l t : Bytes} (hb : BOk nb) (hno : ¬ nb <:+: c)
    (h : Carry c st (l ++ t)) (z : Bytes) (hz : nb <+: z) :
    ¬ ((if st.delim = [CR] then CR :: l else l).take 2 = [DASH, DASH] ∧ st.lfend = true ∧
        rstrip (if st.delim = [CR] then CR :: l else l) = z) := by
  intro ⟨h1, _, h3⟩
  by_cases hdc : st.delim = [CR]
  · -- a glued line begins with CR, not with a dash
    simp only [hdc, if_true] at h1
    cases l <;> simp [CR, DASH] at h1
  · simp only [hdc, if_false] at h3
    exact no_hit nb c (l ++ t) l hb hno ⟨st.out ++ st.delim, [], (List.append_nil _).trans h.text⟩
      (List.prefix_append _ _) z hz (h3 ▸ rstrip_prefix l)

open Poor.Headers (utf8enc utf8dec)

theorem strip_crlf : strip [CR, LF] = [] := by decide

theorem utf8enc_crlf : utf8enc ['\r', '\n'] = [CR, LF] := by decide

/-- a header line `Name: value CRLF` as an RFC 7578 encoder writes it -/
theorem parseHeaderLine_render (name value : Str)
    (hname : ∀ c ∈ name, c ≠ ':' ∧ 33 ≤ c.toNat ∧ c.toNat ≤ 126) (hne : value ≠ [])
    (hv1 : ∀ c, value.head? = some c → HeaderValue.isSpace c = false)
    (hv2 : ∀ c, value.getLast? = some c → HeaderValue.isSpace c = false)
    (hb : CR ∉ utf8enc (name ++ ": ".toList ++ value) ∧ LF ∉ utf8enc (name ++ ": ".toList ++ value)) :
    parseHeaderLine (utf8enc (name ++ ": ".toList ++ value) ++ [CR, LF])
      = some (some (lowerAsciiB name, value)) := by
  generalize ht : name ++ ": ".toList ++ value = t at hb ⊢
  unfold parseHeaderLine
  rw [stripEnd_crlf]
  simp only [List.contains_eq_mem, hb.1, hb.2, decide_false, Bool.or_self, Bool.false_eq_true, if_false]
  have hdec : utf8dec (utf8enc t ++ [CR, LF]) = some (t ++ ['\r', '\n']) := by
    rw [← utf8enc_crlf, ← Headers.utf8enc_append]; exact Headers.utf8dec_utf8enc _
  rw [hdec]
  simp only
  have ht' : t = (name ++ [':']) ++ ' ' :: value := by rw [← ht]; simp
  have hsp : ∀ c ∈ name ++ [':'], HeaderValue.isSpace c = false := by
    intro c hc
    rcases List.mem_append.1 hc with h | h
    · exact HeaderValue.isSpace_of_range (hname c h).2.1 (Nat.le_trans (hname c h).2.2 (by decide))
    · cases List.mem_singleton.1 h; rfl
  have hhead : ∀ c, t.head? = some c → HeaderValue.isSpace c = false := by
    intro c hc
    refine hsp c ?_
    rw [ht'] at hc
    cases name <;> (cases hc; simp)
  have hlast : ∀ c, t.getLast? = some c → HeaderValue.isSpace c = false := by
    rw [← ht, List.getLast?_append_of_ne_nil _ hne]; exact hv2
  rw [show HeaderValue.strip (t ++ ['\r', '\n']) = t from List.strip_append_right hhead hlast (by decide)]
  have hne' : t.isEmpty = false := by rw [ht']; simp
  have hcolon : ':' ∈ t := by rw [ht']; simp
  have hnonl : ∀ (c : Char) (b : UInt8), b ∈ String.utf8EncodeChar c → b ∉ utf8enc t → c ∉ t :=
    fun c b hcb hbt hc => hbt (List.mem_flatMap.2 ⟨c, hc, hcb⟩)
  simp only [hne', hcolon, hnonl '\n' LF (by decide) hb.2, hnonl '\r' CR (by decide) hb.1, decide_true, decide_false,
    Bool.not_true, Bool.or_self, Bool.false_eq_true, if_false]
  obtain ⟨htake, hdrop⟩ : t.takeWhile (· != ':') = name ∧ t.dropWhile (· != ':') = ':' :: ' ' :: value := by
    rw [ht', List.append_assoc]
    exact List.span_ne_append_cons (fun c hc => (hname c hc).1) _
  rw [htake, hdrop]
  have hall : name.all (fun c => decide (33 ≤ c.toNat) && decide (c.toNat ≤ 126)) = true := by
    rw [List.all_eq_true]; intro c hc
    have := hname c hc; simp [this.2.1, this.2.2]
  simp only [hall, Bool.not_true, Bool.false_eq_true, if_false, List.drop_succ_cons, List.drop_zero]
  rw [HeaderValue.strip_space_cons, HeaderValue.strip_of_ends hv1 hv2]

/-- a form part as an RFC 7578 encoder sees it -/
structure EPart where
  name : Str
  filename : Option Str
  ctype : Option Str
  content : Bytes

def dispParams (p : EPart) : List (Str × Str) :=
  ("name".toList, p.name) :: (match p.filename with | some f => [("filename".toList, f)] | none => [])

/-- `form-data; name="..."; filename="..."` with backslash and quote escaped -/
def dispValue (p : EPart) : Str := HeaderValue.renderHeader (some "form-data".toList) (dispParams p)

def hdrTexts (p : EPart) : List Str :=
  ("Content-Disposition".toList ++ ": ".toList ++ dispValue p) ::
    (match p.ctype with | some t => ["Content-Type".toList ++ ": ".toList ++ t] | none => [])

def headerBytes (p : EPart) : Bytes :=
  ((hdrTexts p).map utf8enc).flatMap (· ++ [CR, LF])

/-- everything after the first delimiter line.  `final` is what the encoder sends behind the closing delimiter line:
    a CRLF or nothing (`hfinal` in the theorems).  `++ []` and `++ [] ++` are the empty `tail` and `mark` of
    `readParts_stepG`, written out so that its hypothesis about what is owed matches this text by `rfl`
    (`readParts_bodyG` passes it on as it is). -/
def encBody (ib final : Bytes) : List EPart → Bytes
  | [] => []
  | [p] => headerBytes p ++ ([CR, LF] ++ (p.content ++ [CR, LF] ++ (DASH :: DASH :: ib ++ [DASH, DASH] ++ final ++ [])))
  | p :: q :: ps =>
    headerBytes p ++ ([CR, LF] ++ (p.content ++ [CR, LF] ++ (DASH :: DASH :: ib ++ [] ++ [CR, LF] ++ encBody ib final (q :: ps))))

/-- the body an encoder sends for the part list (`final`: see `encBody`) -/
def encode (ib final : Bytes) (ps : List EPart) : Bytes := DASH :: DASH :: ib ++ [CR, LF] ++ encBody ib final ps

/-- what the parser must hand over for it -/
def expected (p : EPart) : Part :=
  ⟨some p.name, p.filename, p.ctype.getD "text/plain".toList, p.content,
   match p.filename with | some f => !f.isEmpty | none => false⟩

/-- admissible parts: content free of the delimiter, header lines without CR/LF, a plain media type -/
structure PartOK (ib : Bytes) (p : EPart) : Prop where
  content : ¬ (DASH :: DASH :: ib) <:+: p.content
  bytes : ∀ t ∈ hdrTexts p, CR ∉ utf8enc t ∧ LF ∉ utf8enc t
  chars : '\n' ∉ dispValue p ∧ '\r' ∉ dispValue p
  ctype : ∀ t, p.ctype = some t → Poor.Props.C18.MainOK t ∧ '\n' ∉ t ∧ '\r' ∉ t ∧
            t.take 10 ≠ "multipart/".toList

open Poor.Props.C18 (KeyOK MainOK)

/-- the constant texts of a Content-Disposition value, in one evaluation: each one decodes the string literals anew -/
theorem disp_consts : MainOK "form-data".toList ∧ (∀ k ∈ ["name".toList, "filename".toList], KeyOK k) ∧
    ["name".toList, "filename".toList].Nodup := by
  unfold MainOK KeyOK
  decide +kernel

theorem dispParams_keys (p : EPart) : ((dispParams p).map (·.1)).Sublist ["name".toList, "filename".toList] := by
  unfold dispParams
  -- as variables: unifying `"name".toList =?= ("name".toList, p.name).fst` runs the UTF-8 decoder inside
  -- `String.toList` by `whnf`, every time
  generalize "name".toList = a
  generalize "filename".toList = b
  cases p.filename
  · exact .cons_cons _ (List.nil_sublist _)
  · exact .refl _

theorem parse_disp (p : EPart) : HeaderValue.parseHeader (dispValue p) = ("form-data".toList, dispParams p) :=
  Poor.Props.C18.C18_params _ _ disp_consts.1
    (fun _ h => disp_consts.2.1 _ ((dispParams_keys p).subset (List.mem_map_of_mem h)))
    (disp_consts.2.2.sublist (dispParams_keys p))

theorem parse_ctype (t : Str) (h : MainOK t) : HeaderValue.parseHeader t = (t, []) := by
  have := Poor.Props.C18.C18_params t [] h (by simp) (by simp)
  simpa [HeaderValue.renderHeader] using this

theorem hdrTexts_length (p : EPart) : (hdrTexts p).length ≤ 2 := by
  unfold hdrTexts
  cases p.ctype
  · exact Nat.le_succ 1
  · exact Nat.le_refl 2

/-- every header line of a part holds a byte that `strip` keeps: its colon -/
theorem hdrTexts_nonws (p : EPart) : ∀ x ∈ hdrTexts p, ∃ b ∈ utf8enc x, isWs b = false := by
  have key : ∀ n v : Str, ∃ b ∈ utf8enc (n ++ ": ".toList ++ v), isWs b = false := fun n v =>
    ⟨58, by
      rw [Headers.utf8enc_append, Headers.utf8enc_append]
      exact List.mem_append_left _ (List.mem_append_right _ (by decide)), rfl⟩
  intro x hx
  rcases List.mem_cons.1 hx with h | hx
  · exact h ▸ key _ _
  · cases hct : p.ctype with
    | none => rw [hct] at hx; cases hx
    | some t => rw [hct] at hx; exact List.mem_singleton.1 hx ▸ key _ _

theorem parseHeaderLine_blank : parseHeaderLine [CR, LF] = some none := by decide

/-- what `parseHeaderLine_render` asks of the two header names -/
theorem name_disposition :
    (∀ c ∈ "Content-Disposition".toList, c ≠ ':' ∧ 33 ≤ c.toNat ∧ c.toNat ≤ 126) ∧
    lowerAsciiB "Content-Disposition".toList = "content-disposition".toList := by decide +kernel

theorem name_type :
    (∀ c ∈ "Content-Type".toList, c ≠ ':' ∧ 33 ≤ c.toNat ∧ c.toNat ≤ 126) ∧
    lowerAsciiB "Content-Type".toList = "content-type".toList := by decide +kernel

theorem parse_disp_line (p : EPart) (ib : Bytes) (hp : PartOK ib p) :
    parseHeaderLine (utf8enc ("Content-Disposition".toList ++ ": ".toList ++ dispValue p) ++ [CR, LF])
      = some (some ("content-disposition".toList, dispValue p)) := by
  have hform : dispValue p = "form-data".toList ++ Poor.Props.C18.tail (dispParams p) :=
    Poor.Props.C18.renderHeader_eq _ _
  have hlast : (dispValue p).getLast? = some '"' := by
    have ht := Poor.Props.C18.tail_getLast? (ps := dispParams p) (List.cons_ne_nil _ _)
    rw [hform, List.getLast?_append_of_ne_nil _ (fun h => by simp [h] at ht), ht]
  obtain ⟨x, xs, hx⟩ := List.exists_cons_of_ne_nil disp_consts.1.1
  rw [parseHeaderLine_render _ (dispValue p) name_disposition.1 (fun h => by simp [h] at hlast)
    (by rw [hform, hx]; rintro _ ⟨⟩; exact (disp_consts.1.2 x (hx ▸ List.mem_cons_self)).2.2)
    (by rw [hlast]; rintro _ ⟨⟩; rfl) (hp.bytes _ List.mem_cons_self), name_disposition.2]

theorem parse_ctype_line (p : EPart) (ib : Bytes) (hp : PartOK ib p) (t : Str) (ht : p.ctype = some t) :
    parseHeaderLine (utf8enc ("Content-Type".toList ++ ": ".toList ++ t) ++ [CR, LF])
      = some (some ("content-type".toList, t)) := by
  have hm := (hp.ctype t ht).1
  have hmem : "Content-Type".toList ++ ": ".toList ++ t ∈ hdrTexts p := by
    unfold hdrTexts
    rw [ht]
    exact List.mem_cons_of_mem _ List.mem_cons_self
  rw [parseHeaderLine_render _ t name_type.1 hm.1 (fun c hc => (hm.2 c (List.mem_of_head? hc)).2.2)
    (fun c hc => (hm.2 c (List.mem_of_getLast? hc)).2.2) (hp.bytes _ hmem), name_type.2]

/-- the header block of a part, parsed: the (name, value) pairs `readParts` works with -/
def hdrPairs (p : EPart) : List (Str × Str) :=
  ("content-disposition".toList, dispValue p) ::
    (match p.ctype with | some t => [("content-type".toList, t)] | none => [])

theorem filterMap_pairs (l : List (Str × Str)) : (l.map some ++ [none]).filterMap id = l := by
  simp

/-! Looking up a header or a parameter: `headerGet` and `dictGet` are the same search.  The names are variables
    here, since `simp` over the definitions with the literal names in place decodes them again at every step. -/

theorem headerGet_cons_self {n : String} {v : Str} {hs : List (Str × Str)} :
    headerGet ((n.toList, v) :: hs) n = some v := by
  simp [headerGet]

theorem headerGet_cons_ne {k : Str} {n : String} (h : k ≠ n.toList) {v : Str} {hs : List (Str × Str)} :
    headerGet ((k, v) :: hs) n = headerGet hs n := by
  simp [headerGet, h]

theorem dictGet_eq : dictGet = headerGet := rfl

theorem partParams_of {hs : List (Str × Str)} {v : Str} (h : headerGet hs "content-disposition" = some v) :
    partParams hs = (HeaderValue.parseHeader v).2 := by
  rw [partParams, h]

theorem partCtype_of {hs : List (Str × Str)} {v : Str} (h : headerGet hs "content-type" = some v) :
    partCtype hs = (HeaderValue.parseHeader v).1 := by
  rw [partCtype, h]

theorem partCtype_none {hs : List (Str × Str)} (h : headerGet hs "content-type" = none) :
    partCtype hs = "text/plain".toList := by
  rw [partCtype, h]

theorem partParams_pairs (p : EPart) : partParams (hdrPairs p) = dispParams p :=
  (partParams_of (headerGet_cons_self)).trans (congrArg Prod.snd (parse_disp p))

theorem partCtype_pairs (ib : Bytes) (p : EPart) (hp : PartOK ib p) :
    partCtype (hdrPairs p) = p.ctype.getD "text/plain".toList := by
  have hne : "content-disposition".toList ≠ "content-type".toList := fun h =>
    absurd (String.toList_inj.1 h) (by decide)
  unfold hdrPairs
  cases hc : p.ctype with
  | none => exact partCtype_none (headerGet_cons_ne hne)
  | some t =>
    exact (partCtype_of ((headerGet_cons_ne hne).trans (headerGet_cons_self))).trans
      (congrArg Prod.fst (parse_ctype t (hp.ctype t hc).1))

theorem dictGet_name (p : EPart) : dictGet (dispParams p) "name" = some p.name :=
  headerGet_cons_self

theorem dictGet_filename (p : EPart) : dictGet (dispParams p) "filename" = p.filename := by
  rw [dictGet_eq, dispParams, headerGet_cons_ne (List.ne_of_not_mem_cons (List.nodup_cons.1 disp_consts.2.2).1)]
  cases p.filename with
  | none => rfl
  | some f => exact headerGet_cons_self

theorem PartOK.not_multipart {ib : Bytes} {p : EPart} (hp : PartOK ib p) :
    (p.ctype.getD "text/plain".toList).take 10 ≠ "multipart/".toList := by
  cases hc : p.ctype with
  | none => decide +kernel
  | some t => exact (hp.ctype t hc).2.2.2

end Poor.Multipart
