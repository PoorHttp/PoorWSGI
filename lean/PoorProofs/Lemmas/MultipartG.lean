import PoorProofs.Lemmas.Multipart
import PoorProofs.Lemmas.Reader
/-
Property C08 over any reader that honours the line contract below (`Contract`).  Where a reader stands is
`hc.Owes r x` (a good state, `x` still to deliver); every step of the parser is a lemma that leads from
`Owes r (x ++ tail)` to `Owes r' tail`.  The in-memory reader and the block-caching reader are both instances
(`lfContract`, `cachedContract`), so every theorem here holds for either delivery; the in-memory results at the
end are the generic ones at `lfContract`.  The `G` at the end of a lemma's name (and of the file's) says that it is
about the generic reader `rd`.
-/
namespace Poor.Multipart
open Poor

/-- no CRLF pair lies inside `a ++ [CR]`: in `a ++ CR :: LF :: b` the shown pair is the first one -/
def FirstCRLF (a : Bytes) : Prop := ∀ pre suf, a ++ [CR] ≠ pre ++ CR :: LF :: suf

/-- what the parser needs of `readline`: `pend r` is what the reader still owes, `Ok` an invariant
    of reader states, `afterCR r` holds of the state reached after a line that ended in CR -/
structure Contract {R : Type} (rd : Rd R) (pend : R → Bytes) (Ok : R → Prop) (afterCR : R → Prop) : Prop where
  /-- a line is a prefix of what is owed; the rest stays owed -/
  conserve : ∀ r cap, Ok r → (rd.line cap r).1 ++ pend (rd.line cap r).2 = pend r ∧ Ok (rd.line cap r).2
  /-- end of input is reported only at the end of input -/
  nonempty : ∀ r cap, Ok r → pend r ≠ [] → (cap = none ∨ cap = some LINE_CAP) → (rd.line cap r).1 ≠ []
  /-- a line never runs past the first CRLF -/
  stop : ∀ r a b, Ok r → pend r = a ++ CR :: LF :: b → FirstCRLF a →
    (rd.line (some LINE_CAP) r).1.length ≤ a.length + 2
  /-- the LF of a CRLF cut in two comes alone.  (The in-memory reader does cut one in two, at the 64 KiB cap; the
      caching reader never does, and its proof of this clause is vacuous.) -/
  split : ∀ r b, Ok r → afterCR r → pend r = LF :: b → (rd.line (some LINE_CAP) r).1 = [LF]
  /-- the only source of `afterCR`, which `split` assumes -/
  after : ∀ r, Ok r → (rd.line (some LINE_CAP) r).1.getLast? = some CR → afterCR (rd.line (some LINE_CAP) r).2
  /-- a line without CR/LF inside is delivered whole, with its CRLF -/
  line_crlf : ∀ r cap a b, Ok r → pend r = a ++ CR :: LF :: b → CR ∉ a → LF ∉ a →
    (cap = none ∨ (cap = some LINE_CAP ∧ a.length + 2 ≤ LINE_CAP)) → (rd.line cap r).1 = a ++ [CR, LF]
  /-- ... and so is an unterminated last line -/
  line_end : ∀ r a, Ok r → pend r = a → CR ∉ a → LF ∉ a → a.length ≤ LINE_CAP →
    (rd.line (some LINE_CAP) r).1 = a

variable {R : Type} {rd : Rd R} {pend : R → Bytes} {Ok : R → Prop} {afterCR : R → Prop}

structure Contract.Owes (_ : Contract rd pend Ok afterCR) (r : R) (x : Bytes) : Prop where
  ok : Ok r
  eq : pend r = x

theorem Contract.Owes.cast {hc : Contract rd pend Ok afterCR} {r : R} {x y : Bytes} (h : hc.Owes r x) (e : x = y) :
    hc.Owes r y := e ▸ h

theorem Contract.rest (h : Contract rd pend Ok afterCR) (r : R) (cap : Option Nat) (hr : Ok r) :
    pend (rd.line cap r).2 = (pend r).drop (rd.line cap r).1.length := by
  have := (h.conserve r cap hr).1
  rw [← this]; simp

theorem Contract.line_before_crlf (hc : Contract rd pend Ok afterCR) (r : R) (x y : Bytes)
    (h : hc.Owes r (x ++ CR :: LF :: y)) :
    ∃ t, x ++ [CR, LF] = (rd.line (some LINE_CAP) r).1 ++ t ∧ pend (rd.line (some LINE_CAP) r).2 = t ++ y := by
  obtain ⟨a, b, hab, hfirst, hle⟩ := Reader.first_crlf_split x y
  have hstop := hc.stop r a b h.ok (h.eq.trans hab) hfirst
  exact List.prefix_of_append_eq (by rw [(hc.conserve r _ h.ok).1, h.eq]; simp) (by simp; omega)

/-- once the line is known, so is what stays owed -/
theorem Contract.moves (hc : Contract rd pend Ok afterCR) (r : R) (cap : Option Nat) (l tail : Bytes)
    (h : hc.Owes r (l ++ tail)) (hl : (rd.line cap r).1 = l) :
    ∃ r', rd.line cap r = (l, r') ∧ hc.Owes r' tail := by
  obtain ⟨h2, h3⟩ := hc.conserve r cap h.ok
  rw [hl, h.eq] at h2
  exact ⟨_, Prod.ext hl rfl, h3, List.append_cancel_left h2⟩

theorem Contract.full_line (hc : Contract rd pend Ok afterCR) (r : R) (a b : Bytes)
    (h : hc.Owes r (a ++ CR :: LF :: b)) (hcr : CR ∉ a) (hlf : LF ∉ a) :
    ∃ r', rd.line none r = (a ++ [CR, LF], r') ∧ hc.Owes r' b :=
  hc.moves r none _ b (h.cast (by simp)) (hc.line_crlf r none a b h.ok h.eq hcr hlf (Or.inl rfl))

theorem Contract.last_line (hc : Contract rd pend Ok afterCR) (r : R) (a eol tail : Bytes)
    (h : hc.Owes r (a ++ eol ++ tail)) (heol : eol = [CR, LF] ∨ (eol = [] ∧ tail = []))
    (hcr : CR ∉ a) (hlf : LF ∉ a) (hlen : a.length + 2 ≤ LINE_CAP) :
    ∃ r', rd.line (some LINE_CAP) r = (a ++ eol, r') ∧ hc.Owes r' tail := by
  refine hc.moves r _ _ tail h ?_
  rcases heol with rfl | ⟨rfl, rfl⟩
  · exact hc.line_crlf r _ a tail h.ok (by rw [h.eq]; simp) hcr hlf (Or.inr ⟨rfl, hlen⟩)
  · rw [List.append_nil]
    exact hc.line_end r a h.ok (by rw [h.eq]; simp) hcr hlf (by omega)

theorem at_boundaryG (hc : Contract rd pend Ok afterCR) (nb mark eol tail c : Bytes) (hb : BOk nb)
    (hmark : mark = [] ∨ mark = [DASH, DASH]) (heol : eol = [CR, LF] ∨ (eol = [] ∧ tail = []))
    (st : PS) (fuel : Nat) (r : R) (h : hc.Owes r (nb ++ mark ++ eol ++ tail)) (hC : Carry c st []) :
    ∃ r', readLines rd nb (nb ++ [DASH, DASH]) (fuel + 1) st r
        = (c, if mark = [] then Stop.next else Stop.last, r') ∧ hc.Owes r' tail := by
  obtain ⟨hd, hlf⟩ := hC.atEnd rfl
  have hnomark : ∀ x : UInt8, x ≠ DASH → x ∉ nb → x ∉ nb ++ mark := by
    intro x hx hn h
    rcases List.mem_append.1 h with h | h
    · exact hn h
    · rcases hmark with rfl | rfl <;> simp [hx] at h
  obtain ⟨r', hline, hrest⟩ := hc.last_line r (nb ++ mark) eol tail h heol
    (hnomark CR (by decide) hb.nocr) (hnomark LF (by decide) hb.nolf) (by
      have := hb.short
      rcases hmark with rfl | rfl <;> simp <;> omega)
  have hne : nb ++ mark ++ eol ≠ [] := by
    obtain ⟨p, x, hnb, _⟩ := hb.last
    rw [hnb]; simp
  refine ⟨r', ?_, hrest⟩
  rw [readLines_succ hline hne]
  have hdcr : st.delim ≠ [CR] := by rw [hd]; decide
  simp only [hdcr, if_false]
  have htake : (nb ++ mark ++ eol).take 2 = [DASH, DASH] := by
    rw [List.append_assoc]; exact take2_append nb _ hb.dash
  have hlast : ∀ x, (nb ++ mark).getLast? = some x → isWs x = false := by
    rcases hmark with rfl | rfl
    · rw [List.append_nil]; exact hb.last_nonws
    · rw [List.getLast?_append_of_ne_nil _ (by decide)]; rintro _ ⟨⟩; decide
  have hrs : rstrip (nb ++ mark ++ eol) = nb ++ mark :=
    rstrip_append hlast (by rcases heol with rfl | ⟨rfl, _⟩ <;> decide)
  rcases hmark with rfl | rfl
  · simp only [List.append_nil] at hrs htake ⊢
    rw [if_pos ⟨htake, hlf, hrs⟩, hC.out_eq]
    simp
  · have hne : rstrip (nb ++ [DASH, DASH] ++ eol) ≠ nb := by
      rw [hrs]; intro h
      have := congrArg List.length h
      simp at this
    rw [if_neg (fun h => hne h.2.2), if_pos ⟨htake, hlf, hrs⟩, hC.out_eq]
    simp

/-- the line read while content is left lies within the content: by `stop` while its closing CRLF is still whole,
    by `split` when only the LF is left (`hacr`: the CR was then the end of the line before) -/
theorem Contract.content_line (hc : Contract rd pend Ok afterCR) {c : Bytes} {st : PS} {post : Bytes}
    (hC : Carry c st post) (hp0 : post ≠ []) (rest : Bytes) (r : R) (hacr : st.delim = [CR] → afterCR r)
    (h : hc.Owes r (post ++ rest)) :
    ∃ t, post = (rd.line (some LINE_CAP) r).1 ++ t ∧ pend (rd.line (some LINE_CAP) r).2 = t ++ rest := by
  rcases hC.post_cases hp0 with ⟨a0, rfl⟩ | rfl
  · exact hc.line_before_crlf r a0 rest (h.cast (by simp))
  · obtain ⟨r', hl, -, hp'⟩ := hc.moves r _ [LF] rest h
      (hc.split r rest h.ok (hacr hC.delim_cr) h.eq)
    exact ⟨[], by rw [hl]; rfl, by rw [hl, hp']; rfl⟩

theorem extract_auxG (hc : Contract rd pend Ok afterCR) (nb mark eol tail c : Bytes) (hb : BOk nb)
    (hno : ¬ nb <:+: c)
    (hmark : mark = [] ∨ mark = [DASH, DASH]) (heol : eol = [CR, LF] ∨ (eol = [] ∧ tail = [])) :
    ∀ (fuel : Nat) (st : PS) (post : Bytes) (r : R),
      post.length < fuel → Carry c st post → (st.delim = [CR] → afterCR r) →
      hc.Owes r (post ++ (nb ++ mark ++ eol ++ tail)) →
      ∃ r', readLines rd nb (nb ++ [DASH, DASH]) fuel st r
        = (c, if mark = [] then Stop.next else Stop.last, r') ∧ hc.Owes r' tail := by
  intro fuel
  induction fuel with
  | zero => intro _ _ _ _ h; omega
  | succ f ih =>
    intro st post r hlen hC hacr h
    by_cases hp0 : post = []
    · subst hp0
      exact at_boundaryG hc nb mark eol tail c hb hmark heol st f r h hC
    · obtain ⟨t, hpost, hrest⟩ := hc.content_line hC hp0 _ r hacr h
      have hlne : (rd.line (some LINE_CAP) r).1 ≠ [] :=
        hc.nonempty r _ h.ok (by rw [h.eq]; simp [hp0]) (Or.inr rfl)
      subst hpost
      rw [readLines_succ rfl hlne]
      simp only []
      rw [if_neg (hC.no_false_hit hb hno nb (List.prefix_refl _)),
        if_neg (hC.no_false_hit hb hno _ (List.prefix_append _ _))]
      refine ih _ t _ ?_ (hC.absorb hlne) ?_ ⟨(hc.conserve r _ h.ok).2, hrest⟩
      · have := List.length_pos_iff.mpr hlne
        simp only [List.length_append] at hlen; omega
      · -- a line end held back as CR: the reader is in the after-CR state
        intro hd
        apply hc.after r h.ok
        have h1 := stripEnd_cr _ hd
        split at h1
        · rwa [List.getLast?_cons_of_ne_nil hlne] at h1
        · exact h1

theorem extractG (hc : Contract rd pend Ok afterCR) (nb c tail mark eol : Bytes) (hb : BOk nb) (hno : ¬ nb <:+: c)
    (hmark : mark = [] ∨ mark = [DASH, DASH]) (heol : eol = [CR, LF] ∨ (eol = [] ∧ tail = []))
    (fuel : Nat) (hfuel : c.length + 2 < fuel) (r : R)
    (h : hc.Owes r (c ++ [CR, LF] ++ (nb ++ mark ++ eol ++ tail))) :
    ∃ r', readLines rd nb (nb ++ [DASH, DASH]) fuel ⟨[], [], true⟩ r
        = (c, if mark = [] then Stop.next else Stop.last, r') ∧ hc.Owes r' tail :=
  extract_auxG hc nb mark eol tail c hb hno hmark heol fuel _ _ r (by simpa using hfuel) (Carry.init c)
    (fun h => by cases h) h

theorem lfTake_prefix (k : Nat) (s : Bytes) : lfTake k s ++ s.drop (lfTake k s).length = s := by
  fun_induction lfTake k s <;> simp_all

theorem lfTake_length_le (k : Nat) (s : Bytes) : (lfTake k s).length ≤ k := by
  fun_induction lfTake k s <;> simp <;> omega

theorem lfTake_ne_nil (k : Nat) (s : Bytes) (hk : 0 < k) (hs : s ≠ []) : lfTake k s ≠ [] := by
  cases k with
  | zero => omega
  | succ k =>
    cases s with
    | nil => exact absurd rfl hs
    | cons x xs => simp only [lfTake]; split <;> simp

theorem lfTake_append (k : Nat) (a s : Bytes) (ha : LF ∉ a) :
    lfTake k (a ++ s) = a.take k ++ lfTake (k - a.length) s := by
  induction a generalizing k with
  | nil => simp
  | cons x xs ih =>
    cases k with
    | zero => simp [lfTake]
    | succ k =>
      have hx : x ≠ LF := fun e => ha (by simp [e])
      simp [lfTake, hx, ih k (fun h => ha (by simp [h]))]

theorem lfTake_stops (k : Nat) (a b : Bytes) : (lfTake k (a ++ LF :: b)).length ≤ a.length + 1 := by
  induction a generalizing k with
  | nil => cases k <;> simp [lfTake]
  | cons x xs ih =>
    cases k with
    | zero => simp [lfTake]
    | succ k =>
      simp only [List.cons_append, lfTake]
      split
      · simp
      · simpa using ih k

theorem lfTake_line (k : Nat) (a b : Bytes) (ha : LF ∉ a) (hk : a.length + 1 ≤ k) :
    lfTake k (a ++ LF :: b) = a ++ [LF] := by
  obtain ⟨j, rfl⟩ : ∃ j, k = a.length + (j + 1) := ⟨k - a.length - 1, by omega⟩
  rw [lfTake_append _ a _ ha, List.take_of_length_le (by omega)]
  simp [lfTake]

theorem lfTake_all (k : Nat) (a : Bytes) (ha : LF ∉ a) (hk : a.length ≤ k) : lfTake k a = a := by
  have := lfTake_append k a [] ha
  rw [List.append_nil] at this
  rw [this, List.take_of_length_le hk]
  cases k - a.length <;> simp [lfTake]

/-- the in-memory reader honours the line contract -/
theorem lfContract : Contract lfReader (fun s => s) (fun _ => True) (fun _ => True) where
  conserve r cap _ := ⟨lfTake_prefix _ r, trivial⟩
  nonempty := by
    intro r cap _ hne hcap
    show lfTake (cap.getD r.length) r ≠ []
    apply lfTake_ne_nil _ _ _ hne
    rcases hcap with rfl | rfl
    · simp only [Option.getD_none]; exact List.length_pos_iff.mpr hne
    · simp only [Option.getD_some]; decide
  stop := by
    intro r a b _ hp _
    show (lfTake LINE_CAP r).length ≤ a.length + 2
    have := lfTake_stops LINE_CAP (a ++ [CR]) b
    rw [hp]
    simpa using this
  split := by
    intro r b _ _ hp
    show lfTake LINE_CAP r = [LF]
    rw [hp]; exact lfTake_line _ [] b List.not_mem_nil (by decide)
  after _ _ _ := trivial
  line_crlf := by
    intro r cap a b _ hp hcr hlf hcap
    show lfTake (cap.getD r.length) r = a ++ [CR, LF]
    have e : r = (a ++ [CR]) ++ LF :: b := by rw [hp]; simp
    have hno : LF ∉ a ++ [CR] := by
      intro h; rcases List.mem_append.1 h with h | h
      · exact hlf h
      · simp [CR, LF] at h
    have hk : (a ++ [CR]).length + 1 ≤ cap.getD r.length := by
      rcases hcap with rfl | ⟨rfl, h2⟩
      · simp only [Option.getD_none]; rw [e]; simp; omega
      · simp only [Option.getD_some, List.length_append, List.length_cons, List.length_nil]; omega
    generalize cap.getD r.length = k at hk ⊢
    rw [e, lfTake_line k (a ++ [CR]) b hno hk]
    simp
  line_end := by
    intro r a _ hp _ hlf hlen
    show lfTake LINE_CAP r = a
    rw [hp]; exact lfTake_all _ _ hlf hlen

open Poor.Reader

/-- after a line that ended in CR: nothing follows, or the next byte is the CR that was held back -/
def afterCRc (s : St) : Prop := s.pending = [] ∨ s.pending.head? = some CR

theorem readline_after (s : St) (h : (readline s LINE_CAP).1.getLast? = some CR) :
    afterCRc (readline s LINE_CAP).2 := by
  have hzero : (readline s LINE_CAP).2.avail = 0 → (readline s LINE_CAP).2.pending = [] := fun h0 =>
    List.length_eq_zero_iff.mp (by have := pending_le_avail (readline s LINE_CAP).2; omega)
  rcases readline_stop s LINE_CAP with ⟨pre, hp⟩ | ⟨hsz, hcr⟩ | hp | ⟨hb, -⟩
  · rw [hp] at h; simp [CR, LF] at h
  · left
    rcases hcr h with h1 | h0
    · -- a line of one byte: that byte was all that could still be delivered
      apply hzero
      have hav := readline_avail s LINE_CAP
      have hne : (readline s LINE_CAP).1 ≠ [] := fun h0 => by rw [h0] at h; cases h
      have := List.length_pos_iff.mpr hne
      have hcap : 1 < LINE_CAP := by decide
      unfold St.avail at hav ⊢
      omega
    · exact hzero h0
  · exact .inl hp
  · exact .inr (pending_head_of_buf hb)

/-- **the block-caching reader honours the line contract** -/
theorem cachedContract : Contract cachedReader St.pending (fun _ => True) afterCRc where
  conserve r cap _ := ⟨readline_conserve r _, trivial⟩
  nonempty := by
    intro r cap _ hne hcap h0
    have hpos : 0 < r.buf.length + r.todo := by
      have := pending_le_avail r
      have := List.length_pos_iff.mpr hne
      unfold St.avail at *
      omega
    rcases hcap with rfl | rfl
    · exact hne (readline_complete r _ hpos h0)
    · exact hne (readline_complete r _ (Nat.succ_pos _) h0)
  stop := by
    intro r a b _ hp _
    show (readline r LINE_CAP).1.length ≤ a.length + 2
    apply Classical.byContradiction
    intro hgt
    rw [readline_not_past_crlf hp (by omega)] at hgt
    simp at hgt
  split := by
    intro r b _ hacr hp
    -- vacuous: behind a line that ended in CR this reader owes nothing or a CR (`readline_after`: `giveBack` takes a
    -- CR off the end of a line while more may follow), never the LF
    exfalso
    rcases hacr with h | h
    · rw [h] at hp; cases hp
    · rw [hp] at h; simp [CR, LF] at h
  after r _ h := readline_after r h
  line_crlf := by
    intro r cap a b _ hp hcr _ hcap
    refine readline_crlf hp (noCRLF_append_cr (noCRLF_of_not_mem hcr)) ?_
    have hav := pending_le_avail r
    rw [hp] at hav
    simp only [St.avail, List.length_append, List.length_cons] at hav
    rcases hcap with rfl | ⟨rfl, h2⟩
    · simp only; omega
    · simp only; omega
  line_end r a _ hp hcr _ hlen := readline_last hp hcr hlen

open Poor.Headers (utf8enc utf8dec)

theorem headerLines_blockG (hc : Contract rd pend Ok afterCR) (ts : List Bytes) (rest : Bytes) (fuel : Nat)
    (h : ∀ t ∈ ts, CR ∉ t ∧ LF ∉ t ∧ ∃ b ∈ t, isWs b = false) (hfuel : ts.length < fuel) (r : R)
    (hp : hc.Owes r (ts.flatMap (· ++ [CR, LF]) ++ ([CR, LF] ++ rest))) :
    ∃ r', headerLines rd fuel r = (ts.map (· ++ [CR, LF]) ++ [[CR, LF]], r') ∧ hc.Owes r' rest := by
  induction ts generalizing fuel r with
  | nil =>
    obtain ⟨f, rfl⟩ := Nat.exists_eq_add_one_of_ne_zero (Nat.ne_zero_of_lt hfuel)
    obtain ⟨r', hl, h2⟩ := hc.full_line r [] rest hp (by simp) (by simp)
    refine ⟨r', ?_, h2⟩
    rw [headerLines_succ hl (by simp)]
    simp [strip_crlf]
  | cons t ts ih =>
    obtain ⟨f, rfl⟩ := Nat.exists_eq_add_one_of_ne_zero (Nat.ne_zero_of_lt hfuel)
    obtain ⟨htcr, htlf, b, hb, hw⟩ := h t (by simp)
    obtain ⟨r', hl, h2⟩ := hc.full_line r t (ts.flatMap (· ++ [CR, LF]) ++ ([CR, LF] ++ rest))
      (hp.cast (by simp)) htcr htlf
    obtain ⟨r'', hh, hp''⟩ := ih f (fun x hx => h x (by simp [hx])) (by simp at hfuel; omega) r' h2
    refine ⟨r'', ?_, hp''⟩
    have hstrip : strip (t ++ [CR, LF]) ≠ [] := List.strip_ne_nil (List.mem_append_left _ hb) hw
    rw [headerLines_succ hl (by simp)]
    simp [hstrip, hh]

theorem header_blockG (hc : Contract rd pend Ok afterCR) (ib : Bytes) (p : EPart) (hp : PartOK ib p)
    (rest : Bytes) (fuel : Nat) (hfuel : 2 < fuel) (r : R)
    (hpend : hc.Owes r (headerBytes p ++ ([CR, LF] ++ rest))) :
    ∃ lines r', headerLines rd fuel r = (lines, r') ∧ hc.Owes r' rest ∧
      lines.isEmpty = false ∧
      lines.mapM parseHeaderLine = some ((hdrPairs p).map some ++ [none]) := by
  obtain ⟨r', hblock, hp'⟩ := headerLines_blockG hc ((hdrTexts p).map utf8enc) rest fuel
    (fun t ht => by
      obtain ⟨x, hx, rfl⟩ := List.mem_map.1 ht
      exact ⟨(hp.bytes x hx).1, (hp.bytes x hx).2, hdrTexts_nonws p x hx⟩)
    (by have := hdrTexts_length p; rw [List.length_map]; omega) r hpend
  refine ⟨_, r', hblock, hp', by simp, ?_⟩
  unfold hdrTexts hdrPairs
  cases hct : p.ctype with
  | none => exact List.mapM_cons_some (parse_disp_line p ib hp) (List.mapM_cons_some parseHeaderLine_blank rfl)
  | some t =>
    exact List.mapM_cons_some (parse_disp_line p ib hp)
      (List.mapM_cons_some (parse_ctype_line p ib hp t hct) (List.mapM_cons_some parseHeaderLine_blank rfl))

/-- one turn of the `read_multi` loop on an encoded part -/
theorem readParts_stepG (hc : Contract rd pend Ok afterCR) (ib : Bytes) (hb : BOk (DASH :: DASH :: ib))
    (p : EPart) (hp : PartOK ib p)
    (mark eol tail : Bytes) (hmark : mark = [] ∨ mark = [DASH, DASH])
    (heol : eol = [CR, LF] ∨ (eol = [] ∧ tail = [])) (fuel : Nat) (hfuel : p.content.length + 2 < fuel)
    (r : R)
    (hpend : hc.Owes r (headerBytes p ++ ([CR, LF] ++ (p.content ++ [CR, LF] ++ (DASH :: DASH :: ib ++ mark ++ eol ++ tail))))) :
    ∃ r', hc.Owes r' tail ∧
    readParts rd ib (fuel + 1) r
      = (if mark = [] then
          (match readParts rd ib fuel r' with
           | .ok ps => .ok (expected p :: ps)
           | e => e)
         else .ok [expected p]) := by
  obtain ⟨lines, r1, hl1, hp1, hl2, hl3⟩ := header_blockG hc ib p hp
    (p.content ++ [CR, LF] ++ (DASH :: DASH :: ib ++ mark ++ eol ++ tail)) fuel (by omega) r hpend
  obtain ⟨r2, hbody, hp2⟩ := extractG hc (DASH :: DASH :: ib) p.content tail mark eol hb hp.content hmark heol
    fuel hfuel r1 hp1
  refine ⟨r2, hp2, ?_⟩
  simp only [readParts, hl1, hl2, hl3, Bool.false_eq_true, if_false, filterMap_pairs, partParams_pairs,
    partCtype_pairs ib p hp, hp.not_multipart, dictGet_name, dictGet_filename, hbody]
  rcases hmark with rfl | rfl
  · simp only [if_true]
    cases readParts rd ib fuel r2 <;> rfl
  · have : ([DASH, DASH] : Bytes) ≠ [] := by decide
    simp only [this, if_false]
    rfl

/-- Where the fuel bound comes from.  `parseMultipart` hands its one number to `skipToBoundary` and to `readParts`,
    which hands what it has to `headerLines` and `readLines` and goes on with one less for the next part: hence
    `+ ps.length`.  `readLines` takes one turn per line, at most one per byte of `content ++ CRLF` and one for the
    delimiter line (`c.length + 2 < fuel` in `extractG`); `headerLines` needs 3 (`header_blockG`), `skipToBoundary`
    one per preamble line and one more.  The `+ 3` and `+ pre.length` of the theorems below are on the safe side. -/
theorem readParts_bodyG (hc : Contract rd pend Ok afterCR) (ib final : Bytes) (hb : BOk (DASH :: DASH :: ib))
    (hfinal : final = [CR, LF] ∨ final = []) :
    ∀ (ps : List EPart), ps ≠ [] → (∀ p ∈ ps, PartOK ib p) →
      ∀ fuel, (∀ p ∈ ps, p.content.length + 2 + ps.length < fuel) →
      ∀ r, hc.Owes r (encBody ib final ps) →
      readParts rd ib fuel r = .ok (ps.map expected) := by
  intro ps
  induction ps with
  | nil => intro h; exact absurd rfl h
  | cons p rest ih =>
    intro _ hok fuel hfuel r hpend
    have hfp := hfuel p List.mem_cons_self
    simp only [List.length_cons] at hfp
    obtain ⟨f, rfl⟩ := Nat.exists_eq_add_one_of_ne_zero (Nat.ne_zero_of_lt hfp)
    cases rest with
    | nil =>
      obtain ⟨r', _, this⟩ := readParts_stepG hc ib hb p (hok p List.mem_cons_self) [DASH, DASH] final []
        (Or.inr rfl) (hfinal.imp_right fun h => ⟨h, rfl⟩) f (by omega) r hpend
      rw [this, if_neg (by decide)]
      rfl
    | cons q qs =>
      obtain ⟨r', hp', this⟩ := readParts_stepG hc ib hb p (hok p List.mem_cons_self) [] [CR, LF]
        (encBody ib final (q :: qs)) (Or.inl rfl) (Or.inl rfl) f (by omega) r hpend
      rw [this, if_pos rfl, ih (by simp) (fun x hx => hok x (List.mem_cons_of_mem _ hx)) f (fun x hx => by
        have := hfuel x (List.mem_cons_of_mem _ hx)
        simp only [List.length_cons] at this ⊢
        omega) r' hp']
      rfl

/-- a preamble of the lines `pre`, each ended by CRLF (what is asked of the lines is `hpre` of `skip_preambleG`) -/
def preambleText (pre : List Bytes) : Bytes := pre.flatMap (· ++ [CR, LF])

/-- `_skip_to_boundary` reads over a preamble (RFC 2046 5.1.1: "to be ignored"), empty lines included -/
theorem skip_preambleG (hc : Contract rd pend Ok afterCR) (ib : Bytes) (pre : List Bytes)
    (hpre : ∀ l ∈ pre, CR ∉ l ∧ LF ∉ l ∧ strip (l ++ [CR, LF]) ≠ DASH :: DASH :: ib) (X : Bytes) (k : Nat) :
    ∀ r, hc.Owes r (preambleText pre ++ X) →
      ∃ r', skipToBoundary rd ib (pre.length + k) r = skipToBoundary rd ib k r' ∧ hc.Owes r' X := by
  induction pre with
  | nil => intro r hp; exact ⟨r, by simp, hp⟩
  | cons l pre ih =>
    intro r hp
    obtain ⟨hcr, hlf, hne⟩ := hpre l List.mem_cons_self
    obtain ⟨r1, hline, h2⟩ := hc.full_line r l (preambleText pre ++ X)
      (hp.cast (by simp [preambleText])) hcr hlf
    obtain ⟨r', e, hp''⟩ := ih (fun x hx => hpre x (List.mem_cons_of_mem _ hx)) r1 h2
    refine ⟨r', ?_, hp''⟩
    rw [← e, show (l :: pre).length + k = (pre.length + k) + 1 by simp only [List.length_cons]; omega,
      skipToBoundary_succ hline (by simp), if_neg hne]

theorem skip_delimiterG (hc : Contract rd pend Ok afterCR) (ib : Bytes) (hb : BOk (DASH :: DASH :: ib))
    (X : Bytes) (fuel : Nat) (r : R) (hp : hc.Owes r (DASH :: DASH :: ib ++ [CR, LF] ++ X)) :
    ∃ r', skipToBoundary rd ib (fuel + 1) r = r' ∧ hc.Owes r' X := by
  obtain ⟨r', hline, h2⟩ := hc.full_line r (DASH :: DASH :: ib) X (hp.cast (by simp)) hb.nocr hb.nolf
  refine ⟨r', ?_, h2⟩
  have hstrip : strip (DASH :: DASH :: ib ++ [CR, LF]) = DASH :: DASH :: ib :=
    List.strip_append_right (by rintro _ ⟨⟩; decide) hb.last_nonws (by decide)
  rw [skipToBoundary_succ hline (by simp), if_pos hstrip]

/-- **C08 over any reader, bodies with a preamble.** -/
theorem parse_encode_preambleG (hc : Contract rd pend Ok afterCR) (ib final : Bytes) (hb : BOk (DASH :: DASH :: ib))
    (hvalid : validBoundary ib = true)
    (hfinal : final = [CR, LF] ∨ final = []) (ps : List EPart) (hne : ps ≠ []) (hok : ∀ p ∈ ps, PartOK ib p)
    (pre : List Bytes) (hpre : ∀ l ∈ pre, CR ∉ l ∧ LF ∉ l ∧ strip (l ++ [CR, LF]) ≠ DASH :: DASH :: ib)
    (fuel : Nat) (hfuel : ∀ p ∈ ps, p.content.length + 3 + ps.length + pre.length < fuel)
    (r : R) (hr : Ok r) (hpend : pend r = preambleText pre ++ encode ib final ps) :
    parseMultipart rd ib fuel r = .ok (ps.map expected) := by
  obtain ⟨p0, hp0⟩ := List.exists_mem_of_ne_nil ps hne
  have hbig := hfuel p0 hp0
  obtain ⟨f, hf⟩ : ∃ f, fuel = pre.length + (f + 1) := ⟨fuel - pre.length - 1, by omega⟩
  obtain ⟨r0, e0, hp0'⟩ := skip_preambleG hc ib pre hpre (encode ib final ps) (f + 1) r ⟨hr, hpend⟩
  obtain ⟨r', e1, h2⟩ := skip_delimiterG hc ib hb (encBody ib final ps) f r0 hp0'
  have hskip : skipToBoundary rd ib fuel r = r' := by rw [hf, e0, e1]
  simp only [parseMultipart, hvalid, hskip, Bool.not_true, Bool.false_eq_true, if_false]
  exact readParts_bodyG hc ib final hb hfinal ps hne hok fuel (by
    intro p hp; have := hfuel p hp; omega) r' h2

/-- **C08 over any reader that honours the line contract, whole bodies.** -/
theorem parse_encodeG (hc : Contract rd pend Ok afterCR) (ib final : Bytes) (hb : BOk (DASH :: DASH :: ib))
    (hvalid : validBoundary ib = true)
    (hfinal : final = [CR, LF] ∨ final = []) (ps : List EPart) (hne : ps ≠ []) (hok : ∀ p ∈ ps, PartOK ib p)
    (fuel : Nat) (hfuel : ∀ p ∈ ps, p.content.length + 3 + ps.length < fuel)
    (r : R) (hr : Ok r) (hpend : pend r = encode ib final ps) :
    parseMultipart rd ib fuel r = .ok (ps.map expected) :=
  parse_encode_preambleG hc ib final hb hvalid hfinal ps hne hok [] (by simp) fuel (by simpa using hfuel) r hr hpend

/-- the block-caching reader, whatever its block size, buffer and source split -/
theorem parse_encode_cached (ib final : Bytes) (hb : BOk (DASH :: DASH :: ib))
    (hvalid : validBoundary ib = true)
    (hfinal : final = [CR, LF] ∨ final = []) (ps : List EPart) (hne : ps ≠ []) (hok : ∀ p ∈ ps, PartOK ib p)
    (fuel : Nat) (hfuel : ∀ p ∈ ps, p.content.length + 3 + ps.length < fuel)
    (s : Reader.St) (hpend : s.pending = encode ib final ps) :
    parseMultipart cachedReader ib fuel s = .ok (ps.map expected) :=
  parse_encodeG cachedContract ib final hb hvalid hfinal ps hne hok fuel hfuel s trivial hpend

/-- `extract_auxG` at the in-memory reader, with `Carry` written out clause by clause (`text` by way of what has
    been read, `pre`) -/
theorem extract_aux (nb mark eol tail c : Bytes) (hb : BOk nb) (hno : ¬ nb <:+: c)
    (hmark : mark = [] ∨ mark = [DASH, DASH]) (heol : eol = [CR, LF] ∨ (eol = [] ∧ tail = [])) :
    ∀ (n : Nat) (st : PS) (pre post : Bytes) (fuel : Nat),
      post.length ≤ n → n < fuel → pre ++ post = c ++ [CR, LF] → st.out ++ st.delim = pre →
      (post = [] → st.delim = [CR, LF] ∧ st.lfend = true) →
      (st.delim = [] → st.out.getLast? ≠ some CR) →
      (st.delim = [CR, LF] ∨ st.delim = [LF] ∨ st.delim = [CR] ∨ st.delim = []) →
      readLines lfReader nb (nb ++ [DASH, DASH]) fuel st (post ++ (nb ++ mark ++ eol ++ tail))
        = (c, if mark = [] then Stop.next else Stop.last, tail) := by
  intro n st pre post fuel h1 h2 h3 h4 h5 h6 h7
  obtain ⟨r', h, _, hr'⟩ := extract_auxG lfContract nb mark eol tail c hb hno hmark heol fuel st post _
    (by omega) ⟨h4 ▸ h3, h5, h6, h7⟩ (fun _ => trivial) ⟨trivial, rfl⟩
  rw [h, show r' = tail from hr']

/-- **C08 for the in-memory reader, whole bodies.** -/
theorem parse_encode (ib final : Bytes) (hb : BOk (DASH :: DASH :: ib)) (hvalid : validBoundary ib = true)
    (hfinal : final = [CR, LF] ∨ final = []) (ps : List EPart) (hne : ps ≠ []) (hok : ∀ p ∈ ps, PartOK ib p)
    (fuel : Nat) (hfuel : ∀ p ∈ ps, p.content.length + 3 + ps.length < fuel) :
    parseMultipart lfReader ib fuel (encode ib final ps) = .ok (ps.map expected) :=
  parse_encodeG lfContract ib final hb hvalid hfinal ps hne hok fuel hfuel _ trivial rfl

end Poor.Multipart
