import PoorModel.Range
/-
C06/C07, the model side.  The chunk skipper `rangeGen` yields the slice `start..last` of the flattened chunks
for every chunking (`rangeGen_some`, `rangeGen_none`); the window arithmetic of `__start_response__`, which
the model does over the integers as the code does, is said once over the natural numbers (`window_cons`).
-/
namespace Poor.Range
open Poor

theorem take_drop_append (c r : List α) (a b : Nat) :
    ((c ++ r).take b).drop a = ((c.take b).drop a) ++ ((r.take (b - c.length)).drop (a - c.length)) := by
  rw [List.take_append, List.drop_append, List.length_take]
  by_cases h : b ≤ c.length
  · rw [Nat.min_eq_left h, Nat.sub_eq_zero_of_le h, List.take_zero, List.drop_nil, List.drop_nil]
  · rw [Nat.min_eq_right (Nat.le_of_not_le h)]

theorem slice_length {b : List α} {f l : Nat} (h : f ≤ l) (hl : l < b.length) :
    ((b.drop f).take (l - f + 1)).length = l - f + 1 := by
  rw [List.length_take, List.length_drop]
  omega

theorem ite_sub (pos start : Nat) : (if pos < start then start - pos else 0) = start - pos := by
  split
  · rfl
  · exact (Nat.sub_eq_zero_of_le (Nat.le_of_not_lt ‹_›)).symm

theorem rangeGen_some (start l : Nat) (cs : List Bytes) (pos : Nat) :
    (rangeGen start (some l) pos cs).flatten =
      ((cs.flatten).take (l + 1 - pos)).drop (start - pos) := by
  induction cs generalizing pos with
  | nil => simp [rangeGen]
  | cons c cs ih =>
    simp only [rangeGen, List.flatten_cons, ite_sub, slice]
    rw [take_drop_append, ← Nat.sub_add_eq, ← Nat.sub_add_eq]
    split
    · rw [ih, List.drop_eq_nil_of_le (as := c.take (l + 1 - pos)) (i := start - pos) (by rw [List.length_take]; omega), List.nil_append]
    · split
      · rw [Nat.sub_eq_zero_of_le (by omega : l + 1 ≤ pos + c.length), List.take_zero, List.drop_nil,
          List.flatten_singleton, List.append_nil]
      · rw [List.flatten_cons, ih, List.take_length, List.take_of_length_le (by omega : c.length ≤ l + 1 - pos)]

theorem rangeGen_none_eq (start l : Nat) (cs : List Bytes) (pos : Nat) (h : pos + cs.flatten.length ≤ l) :
    rangeGen start none pos cs = rangeGen start (some l) pos cs := by
  induction cs generalizing pos with
  | nil => rfl
  | cons c cs ih =>
    rw [List.flatten_cons, List.length_append] at h
    simp only [rangeGen]
    rw [ih (pos + c.length) (by omega), if_neg (by omega : ¬pos + c.length > l)]

theorem rangeGen_none (start : Nat) (cs : List Bytes) (pos : Nat) :
    (rangeGen start none pos cs).flatten = (cs.flatten).drop (start - pos) := by
  rw [rangeGen_none_eq start _ cs pos (Nat.le_refl _), rangeGen_some, List.take_of_length_le (by omega)]

/-- `decide206` where it is called: `first` is a natural number, `last` one or `full - 1` -/
theorem decide206_nat (L s e : Nat) :
    decide206 L s e = if L = 0 ∨ e < s then .unsat else .part s e := by
  unfold decide206
  by_cases h : L = 0 ∨ e < s
  · rw [if_pos h, if_neg (by omega)]
  · rw [if_neg h, if_pos (by omega)]; rfl

theorem decide206_last (L s : Nat) :
    decide206 L s ((L : Int) - 1) = if L ≤ s then .unsat else .part s (L - 1) := by
  unfold decide206
  by_cases h : L ≤ s
  · rw [if_pos h, if_neg (by omega)]
  · rw [if_neg h, if_pos (by omega)]; congr 1; omega

/-- only the first range counts, and this is what it selects -/
theorem window_cons (L : Nat) (r : RangeT) (rs : List RangeT) :
    window L (r :: rs) = match r with
      | (none, none) => .typeError
      | (none, some n) => if n = 0 ∨ L = 0 then .unsat else .part (L - min L n) (L - 1)
      | (some f, none) => if f ≥ L then .unsat else .part f (L - 1)
      | (some f, some l) => if f ≥ L ∨ l < f then .unsat else .part f (min l (L - 1)) := by
  obtain ⟨a, b⟩ := r
  cases a <;> cases b <;>
    simp only [window, ← Int.ofNat_sub (Nat.min_le_left _ _), decide206_nat, decide206_last]
  · rename_i n
    by_cases h : n = 0 ∨ L = 0
    · rw [if_pos h, if_pos (by omega)]
    · rw [if_neg h, if_neg (by omega)]
  · rename_i f l
    by_cases h : f ≥ L ∨ l < f
    · rw [if_pos h]; split <;> exact if_pos (by omega)
    · rw [if_neg h]; split <;> (rw [if_neg (by omega)]; congr 1; omega)

theorem window_part {full : Nat} {rs : List RangeT} {f l : Nat}
    (h : window full rs = .part f l) : f ≤ l ∧ l < full := by
  match rs with
  | [] => cases h
  | (a, b) :: rs =>
    rw [window_cons] at h
    cases a <;> cases b <;> simp only at h
    · cases h
    -- every `.part` branch of `window_cons` stands under the test that bounds it
    all_goals (split at h; · cases h)
    all_goals (cases h; omega)

end Poor.Range
