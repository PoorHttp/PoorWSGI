import PoorModel.ReadAll
/- read_length (fieldstorage.py): a body arriving in pieces is read to its declared length. -/
namespace Poor.ReadAll

theorem grant_le (i : In) (k : Nat) : i.grant k ≤ k := by
  unfold In.grant; split <;> omega

theorem grant_pos (i : In) {k : Nat} (h : 0 < k) : 0 < i.grant k := by
  unfold In.grant; split <;> omega

@[simp] theorem read_fst (i : In) (k : Nat) : (i.read k).1 = i.src.take (i.grant k) := rfl
@[simp] theorem read_src (i : In) (k : Nat) : (i.read k).2.src = i.src.drop (i.grant k) := rfl

theorem read_eq_nil {i : In} {k : Nat} (h : (i.read k).1 = []) : k = 0 ∨ i.src = [] :=
  (Nat.eq_zero_or_pos k).imp_right fun hk => (List.take_eq_nil_iff.1 h).resolve_left (Nat.ne_of_gt (grant_pos i hk))

/-- the loop keeps `data ++ unread input` and ends with the first `length` bytes of it -/
theorem loop_spec (length : Nat) (data : Bytes) (i : In) (hlen : data.length ≤ length) (hne : data ≠ []) :
    (loop length data i).1 = (data ++ i.src).take length ∧
      (loop length data i).2.src = (data ++ i.src).drop length := by
  fun_induction loop length data i with
  | case1 data i h hmore =>
    have hsrc : i.src = [] := (read_eq_nil hmore).resolve_left (by omega)
    simp only [hsrc, List.append_nil, read_src, List.drop_nil]
    exact ⟨(List.take_of_length_le hlen).symm, (List.drop_eq_nil_of_le hlen).symm⟩
  | case2 data i h hmore ih =>
    have hg := grant_le i (length - data.length)
    rw [read_fst, read_src, List.append_assoc, List.take_append_drop] at ih
    exact ih (by simp only [List.length_append, List.length_take]; omega) (by simp [hne])
  | case3 data i h =>
    have he : data.length = length := by
      have : ¬ data.length < length := fun hlt => h ⟨hne, hlt⟩
      omega
    exact ⟨(List.take_left' he).symm, (List.drop_left' he).symm⟩

/-- **read_length.**  Whatever the pieces the input hands over, the result is the first `length` bytes of it
    (all of it when it is shorter) and the input is left exactly behind them. -/
theorem readLength_spec (i : In) (length : Nat) :
    (readLength i length).1 = i.src.take length ∧ (readLength i length).2.src = i.src.drop length := by
  unfold readLength
  by_cases hne : (i.read length).1 = []
  · -- the first read brought nothing, and the loop is not entered
    rw [loop.eq_def, dif_neg (fun h => h.1 hne)]
    rcases read_eq_nil hne with rfl | h0
    · have := grant_le i 0
      simp [Nat.le_zero.1 this]
    · simp [h0]
  · have hg := grant_le i length
    have := loop_spec length _ (i.read length).2 (by rw [read_fst, List.length_take]; omega) hne
    rwa [read_fst, read_src, List.take_append_drop] at this

end Poor.ReadAll
