import PoorModel.Reader
import PoorProofs.Lemmas.Scan
/-
The caching body reader (C09), and what the multipart parser (C08) needs of its `readline`.

Every operation is described by one relation, `Delivers s x s'`: the bytes `x` handed to the caller come off the
front of what is owed (`St.pending`) and off what can still be delivered (`St.avail`), and the invariant of the
log of underlying reads is kept.  It composes along the calls, so conservation and budget of any history are
its projections.  The shape of a line rests on `findCRLF_some` / `findCRLF_none`, which say in terms of `NoCRLF`
what the search of the window has found; `readlineLoop_line` carries it through the loop, `readline_stop`
through the hand-back of a trailing CR.
-/
namespace Poor.Reader
open Poor

theorem take_take_drop (l : List α) (m t : Nat) (h : m ≤ t) :
    l.take m ++ (l.drop m).take (t - m) = l.take t := by
  rw [← List.take_add, Nat.add_sub_cancel' h]

/-- the `m` of the model's `St.under` (what the short-read script lets `read(k)` deliver), copied from its `let`
    word for word: that is why `under_fst` .. `under_todo` hold by `rfl` -/
def St.cap (s : St) (k : Nat) : Nat := match s.script with | [] => k | x :: _ => min k (x + 1)

theorem cap_le (s : St) (k : Nat) : s.cap k ≤ k := by unfold St.cap; split <;> omega
theorem cap_pos (s : St) (k : Nat) (h : 0 < k) : 0 < s.cap k := by unfold St.cap; split <;> omega

theorem under_fst (s : St) (k : Nat) : (s.under k).1 = s.src.take (s.cap k) := rfl
theorem under_buf (s : St) (k : Nat) : (s.under k).2.buf = s.buf := rfl
theorem under_src (s : St) (k : Nat) : (s.under k).2.src = s.src.drop (s.cap k) := rfl
theorem under_todo (s : St) (k : Nat) : (s.under k).2.todo = s.todo - (s.src.take (s.cap k)).length := rfl
theorem under_log (s : St) (k : Nat) : (s.under k).2.log = (k, s.todo) :: s.log := rfl

theorem under_eq_nil {s : St} {k : Nat} (h : (s.under k).1 = []) : k = 0 ∨ s.src = [] :=
  (Nat.eq_zero_or_pos k).imp_right fun hk =>
    (List.take_eq_nil_iff.1 (under_fst s k ▸ h)).resolve_left (Nat.ne_of_gt (cap_pos s k hk))

theorem prep_eq (s : St) (w : Nat) :
    (s.prep w = s ∧ (s.buf = [] → min s.todo w = 0)) ∨
    (s.buf = [] ∧ 0 < min s.todo w ∧
      s.prep w = { (s.under (min s.todo w)).2 with buf := (s.under (min s.todo w)).1 }) := by
  unfold St.prep St.fill
  split
  · next hb =>
    simp only
    split
    · next h0 => exact .inl ⟨by cases s; simp_all, fun _ => h0⟩
    · next h0 => exact .inr ⟨hb, Nat.pos_of_ne_zero h0, rfl⟩
  · next hb => exact .inl ⟨rfl, fun h => absurd h hb⟩

theorem giveBack_eq (sz : Nat) (r : Bytes × St) :
    giveBack sz r = r ∨
    ∃ pre, pre ≠ [] ∧ r.1 = pre ++ [CR] ∧ giveBack sz r = (pre, { r.2 with buf := CR :: r.2.buf }) := by
  unfold giveBack
  split
  · next hc =>
    obtain ⟨pre, hpre⟩ := List.getLast?_eq_some_iff.1 hc.2.2.1
    refine .inr ⟨pre, ?_, hpre, by rw [hpre, List.dropLast_concat]⟩
    rintro rfl
    rw [hpre] at hc
    exact absurd hc.2.1 (by decide)
  · exact .inl rfl

theorem giveBack_log (sz : Nat) (r : Bytes × St) : (giveBack sz r).2.log = r.2.log := by
  rcases giveBack_eq sz r with e | ⟨_, -, -, e⟩ <;> rw [e]

theorem giveBack_length (sz : Nat) (r : Bytes × St) : (giveBack sz r).1.length ≤ r.1.length := by
  rcases giveBack_eq sz r with e | ⟨_, -, hpre, e⟩ <;> rw [e]
  · exact Nat.le_refl _
  · simp [hpre]

/-- bytes that can still be delivered at most: buffered plus undelivered budget -/
def St.avail (s : St) : Nat := s.buf.length + s.todo

theorem pending_le_avail (s : St) : s.pending.length ≤ s.avail := by
  unfold St.pending St.avail
  simp only [List.length_append, List.length_take]
  omega

theorem pending_eq_nil {s : St} (hb : s.buf = []) (h : s.todo = 0 ∨ s.src = []) : s.pending = [] := by
  rcases h with h | h <;> simp [St.pending, hb, h]

theorem pending_head_of_buf {s : St} {x : UInt8} (h : s.buf.head? = some x) : s.pending.head? = some x := by
  obtain ⟨ys, hb⟩ := List.head?_eq_some_iff.1 h
  rw [St.pending, hb]
  rfl

def LogOk (s : St) : Prop := ∀ p ∈ s.log, p.1 ≤ p.2

/-- the stream position and the remaining budget always add up to the declared length -/
def Tracks (src0 : Bytes) (n : Nat) (s : St) : Prop :=
  ∃ pre, src0 = pre ++ s.src ∧ pre.length + s.todo = n

def Inv (src0 : Bytes) (n : Nat) (s : St) : Prop := LogOk s ∧ Tracks src0 n s

/-- Going from `s` to `s'` hands `x` to the caller: `x` comes off the front of what is owed and off
    what can still be delivered, and the stream is not asked for more than the declared length. -/
structure Delivers (s : St) (x : Bytes) (s' : St) : Prop where
  pending : x ++ s'.pending = s.pending
  avail : s'.avail + x.length = s.avail
  inv : ∀ src0 n, Inv src0 n s → Inv src0 n s'

theorem Delivers.refl (s : St) : Delivers s [] s := ⟨rfl, rfl, fun _ _ h => h⟩

theorem Delivers.trans {s s' s'' : St} {x y : Bytes} (h1 : Delivers s x s') (h2 : Delivers s' y s'') :
    Delivers s (x ++ y) s'' :=
  ⟨by rw [List.append_assoc, h2.pending, h1.pending],
   by have := h1.avail; have := h2.avail; simp only [List.length_append]; omega,
   fun a n h => h2.inv a n (h1.inv a n h)⟩

theorem Delivers.take (s : St) (k : Nat) : Delivers s (s.buf.take k) { s with buf := s.buf.drop k } :=
  ⟨by simp [St.pending, ← List.append_assoc],
   by simp only [St.avail, List.length_take, List.length_drop]; omega, fun _ _ h => h⟩

theorem Delivers.takeAll (s : St) : Delivers s s.buf { s with buf := [] } := by
  simpa using Delivers.take s s.buf.length

theorem Delivers.under (s : St) (k : Nat) (hk : k ≤ s.todo) :
    Delivers s [] { (s.under k).2 with buf := s.buf ++ (s.under k).1 } := by
  have hm : s.cap k ≤ s.todo := Nat.le_trans (cap_le s k) hk
  have hd : (s.src.take (s.cap k)).length ≤ s.todo := Nat.le_trans (List.length_take_le _ _) hm
  refine ⟨?_, ?_, ?_⟩
  · -- `take m ++ take (todo - |take m|) (drop m) = take todo`: cut `src` at `m` first
    simp only [St.pending, List.nil_append, List.append_assoc, under_fst, under_src, under_todo]
    congr 1
    conv => rhs; rw [← List.take_append_drop (s.cap k) s.src, List.take_append, List.take_take, Nat.min_eq_right hm]
  · simp only [St.avail, List.length_append, under_fst, under_todo, List.length_nil]
    omega
  · rintro src0 n ⟨hl, pre, hsrc, hn⟩
    refine ⟨?_, pre ++ s.src.take (s.cap k), ?_, ?_⟩
    · intro p hp
      rcases List.mem_cons.mp (show p ∈ (k, s.todo) :: s.log from hp) with rfl | hp
      · exact hk
      · exact hl p hp
    · show src0 = _ ++ s.src.drop (s.cap k)
      rw [List.append_assoc, List.take_append_drop]; exact hsrc
    · show _ + (s.todo - (s.src.take (s.cap k)).length) = n
      simp only [List.length_append]
      omega

theorem Delivers.prep (s : St) (w : Nat) : Delivers s [] (s.prep w) := by
  rcases prep_eq s w with ⟨e, -⟩ | ⟨hb, -, e⟩ <;> rw [e]
  · exact .refl s
  · simpa [hb] using Delivers.under s (min s.todo w) (Nat.min_le_left _ _)

theorem Delivers.read (s : St) (size : Nat) : Delivers s (read s size).1 (read s size).2 := by
  unfold Reader.read
  simp only
  split
  · exact .take s _
  · simpa using (Delivers.under s (min (s.todo + s.buf.length) size - s.buf.length) (by omega)).trans (.takeAll _)

theorem Delivers.loop (size : Nat) (line : Bytes) (s : St) :
    ∃ x, (readlineLoop size line s).1 = line ++ x ∧ Delivers s x (readlineLoop size line s).2 := by
  fun_induction readlineLoop size line s with
  | case1 line s h => exact ⟨[], by simp, .refl s⟩
  | case2 line s h hb => exact ⟨[], by simp, .prep s _⟩
  | case3 line s h hb hc =>
    obtain ⟨l, hbuf⟩ := List.head?_eq_some_iff.1 hc.2
    exact ⟨[LF], rfl, by simpa [hbuf] using (Delivers.prep s (size - line.length)).trans (.take _ 1)⟩
  | case4 line s h hb hc p hf => exact ⟨_, rfl, (Delivers.prep s _).trans (.take _ _)⟩
  | case5 line s h hb hc hf ih =>
    obtain ⟨x, hx, hd⟩ := ih
    exact ⟨_ ++ x, by simp [hx], ((Delivers.prep s _).trans (.take _ _)).trans hd⟩

theorem Delivers.giveBack {s : St} (sz : Nat) (r : Bytes × St) (h : Delivers s r.1 r.2) :
    Delivers s (giveBack sz r).1 (giveBack sz r).2 := by
  rcases giveBack_eq sz r with e | ⟨pre, -, hpre, e⟩ <;> rw [e]
  · exact h
  · refine ⟨?_, ?_, h.inv⟩
    · rw [← h.pending, hpre]; simp [St.pending]
    · have := h.avail
      simp [St.avail, hpre] at this ⊢
      omega

theorem Delivers.readline (s : St) (size : Nat) : Delivers s (readline s size).1 (readline s size).2 := by
  obtain ⟨x, hx, hd⟩ := Delivers.loop (min size (s.buf.length + s.todo)) [] s
  exact .giveBack _ _ (by rw [hx]; exact hd)

theorem Delivers.step (block : Nat) (s : St) (op : Op) : Delivers s (step block s op).1 (step block s op).2 := by
  cases op with
  | read sz => exact .read s _
  | readline sz => exact .readline s _

theorem Delivers.run (block : Nat) (s : St) (ops : List Op) :
    Delivers s (run block s ops).1.flatten (run block s ops).2 := by
  induction ops generalizing s with
  | nil => exact .refl s
  | cons op ops ih => exact (Delivers.step block s op).trans (ih _)

theorem read_conserve (s : St) (size : Nat) :
    (read s size).1 ++ (read s size).2.pending = s.pending := (Delivers.read s size).pending

theorem readlineLoop_conserve (size : Nat) (line : Bytes) (s : St) :
    (readlineLoop size line s).1 ++ (readlineLoop size line s).2.pending = line ++ s.pending := by
  obtain ⟨x, hx, hd⟩ := Delivers.loop size line s
  rw [hx, List.append_assoc, hd.pending]

theorem readline_conserve (s : St) (size : Nat) :
    (readline s size).1 ++ (readline s size).2.pending = s.pending := (Delivers.readline s size).pending

theorem readline_avail (s : St) (size : Nat) :
    (readline s size).2.avail + (readline s size).1.length = s.avail := (Delivers.readline s size).avail

/-! ### what `Delivers` does not say: the number of underlying reads per call, and the end of input -/

theorem prep_log (s : St) (w : Nat) : (s.prep w).log.length ≤ s.log.length + 1 := by
  rcases prep_eq s w with ⟨e, -⟩ | ⟨-, -, e⟩ <;> rw [e]
  · exact Nat.le_succ _
  · exact Nat.le_refl _

theorem read_reads (s : St) (size : Nat) : (read s size).2.log.length ≤ s.log.length + 1 := by
  unfold read
  simp only
  split
  · simp
  · simp [under_log]

theorem readlineLoop_reads (size : Nat) (line : Bytes) (s : St) :
    (readlineLoop size line s).2.log.length ≤ s.log.length + (size - line.length) := by
  fun_induction readlineLoop size line s with
  | case1 line s h => exact Nat.le_add_right _ _
  | case2 line s h hb | case3 line s h hb hc | case4 line s h hb hc p hf =>
    show (s.prep (size - line.length)).log.length ≤ _
    have := prep_log s (size - line.length); omega
  | case5 line s h hb hc hf ih =>
    have hp := prep_log s (size - line.length)
    have hl := List.length_pos_iff.mpr hb
    refine Nat.le_trans ih ?_
    simp only [List.length_append, List.length_take]
    omega

theorem read_complete (s : St) (size : Nat) (hsz : 0 < size) (h : (read s size).1 = []) :
    s.pending = [] := by
  unfold read at h
  simp only at h
  split at h
  · next hge =>
    -- an empty front of the buffer: the buffer is empty, and so is the budget
    have hb : s.buf.length = 0 :=
      (List.take_eq_nil_iff.1 h).elim (fun h0 => by omega) fun h0 => congrArg List.length h0
    exact pending_eq_nil (List.length_eq_zero_iff.1 hb) (.inl (by omega))
  · next hlt =>
    obtain ⟨hb, hd⟩ := List.append_eq_nil_iff.1 h
    exact pending_eq_nil hb (.inr ((under_eq_nil hd).resolve_left (by omega)))

theorem prep_empty_pending (s : St) (w : Nat) (hw : 0 < w) (hb : (s.prep w).buf = []) :
    (s.prep w).pending = [] := by
  rw [show (s.prep w).pending = s.pending from (Delivers.prep s w).pending]
  rcases prep_eq s w with ⟨e, h0⟩ | ⟨hb', hpos, e⟩ <;> rw [e] at hb
  · exact pending_eq_nil hb (.inl (by have := h0 hb; omega))
  · exact pending_eq_nil hb' (.inr ((under_eq_nil hb).resolve_left (by omega)))

def NoCRLF (l : Bytes) : Prop := ∀ pre suf, l ≠ pre ++ CR :: LF :: suf

def OnlyFinalCRLF (l : Bytes) : Prop := ∀ pre suf, l = pre ++ CR :: LF :: suf → suf = []

def EndsCRLF (l : Bytes) : Prop := ∃ pre, l = pre ++ [CR, LF]

theorem NoCRLF.onlyFinal {l : Bytes} (h : NoCRLF l) : OnlyFinalCRLF l :=
  fun pre suf e => absurd e (h pre suf)

theorem noCRLF_of_short {l : Bytes} (h : l.length < 2) : NoCRLF l := by
  intro pre suf e
  have := congrArg List.length e
  simp at this; omega

theorem noCRLF_nil : NoCRLF [] := noCRLF_of_short (by decide)

theorem noCRLF_of_not_mem {l : Bytes} (h : CR ∉ l) : NoCRLF l := fun pre suf e => h (by rw [e]; simp)

theorem noCRLF_take_of {l : Bytes} (h : NoCRLF l) (k : Nat) : NoCRLF (l.take k) := by
  intro pre suf e
  have : l = pre ++ CR :: LF :: (suf ++ l.drop k) := by
    conv => lhs; rw [← List.take_append_drop k l, e]
    simp
  exact h _ _ this

/-- a CRLF pair in `a ++ b` lies in `a`, in `b`, or across the junction -/
theorem crlf_append_cases {a b pre suf : Bytes} (h : a ++ b = pre ++ CR :: LF :: suf) :
    (∃ x, a = pre ++ CR :: LF :: x ∧ suf = x ++ b) ∨
    (a = pre ++ [CR] ∧ b = LF :: suf) ∨
    (∃ y, pre = a ++ y ∧ b = y ++ CR :: LF :: suf) := by
  rcases List.append_eq_append_iff.mp h with ⟨a', h1, h2⟩ | ⟨c', h1, h2⟩
  · exact .inr (.inr ⟨a', h1, h2⟩)
  · -- `a = pre ++ c'` and `CR :: LF :: suf = c' ++ b`: how much of the pair does `c'` hold?
    rcases List.cons_eq_append_iff.1 h2 with ⟨rfl, hb⟩ | ⟨c'', rfl, h3⟩
    · exact .inr (.inr ⟨[], by simpa using h1.symm, hb⟩)
    · rcases List.cons_eq_append_iff.1 h3 with ⟨rfl, hb⟩ | ⟨c3, rfl, h4⟩
      · exact .inr (.inl ⟨h1, hb⟩)
      · exact .inl ⟨c3, h1, h4⟩

theorem getLast?_append_singleton (pre : Bytes) (x : UInt8) : (pre ++ [x]).getLast? = some x :=
  List.getLast?_concat

theorem crlf_append_right {a b pre suf : Bytes} (ha : NoCRLF a)
    (hj : ¬(a.getLast? = some CR ∧ b.head? = some LF)) (h : a ++ b = pre ++ CR :: LF :: suf) :
    ∃ y, b = y ++ CR :: LF :: suf := by
  rcases crlf_append_cases h with ⟨x, h1, _⟩ | ⟨h1, h2⟩ | ⟨y, _, h2⟩
  · exact absurd h1 (ha _ _)
  · exact absurd ⟨by rw [h1]; exact List.getLast?_concat, by rw [h2]; rfl⟩ hj
  · exact ⟨y, h2⟩

theorem noCRLF_append {a b : Bytes} (ha : NoCRLF a) (hb : NoCRLF b)
    (hj : ¬(a.getLast? = some CR ∧ b.head? = some LF)) : NoCRLF (a ++ b) := fun _ suf h =>
  (crlf_append_right ha hj h).elim fun y h2 => hb y suf h2

theorem onlyFinal_append {a b : Bytes} (ha : NoCRLF a) (hb : OnlyFinalCRLF b)
    (hj : ¬(a.getLast? = some CR ∧ b.head? = some LF)) : OnlyFinalCRLF (a ++ b) := fun _ suf h =>
  (crlf_append_right ha hj h).elim fun y h2 => hb y suf h2

theorem noCRLF_cons {x : UInt8} {l : Bytes} (h : NoCRLF l) (hx : ¬(x = CR ∧ l.head? = some LF)) :
    NoCRLF (x :: l) :=
  noCRLF_append (a := [x]) (noCRLF_of_short (Nat.lt_succ_self 1)) h (by simpa using hx)

theorem crlf_concat_cases {a pre suf : Bytes} {x : UInt8} (h : a ++ [x] = pre ++ CR :: LF :: suf) :
    (∃ s', a = pre ++ CR :: LF :: s') ∨ (a = pre ++ [CR] ∧ x = LF ∧ suf = []) := by
  rcases crlf_append_cases h with ⟨s', h1, _⟩ | ⟨h1, h2⟩ | ⟨y, _, h2⟩
  · exact Or.inl ⟨s', h1⟩
  · obtain ⟨rfl, rfl⟩ := List.cons.inj h2
    exact Or.inr ⟨h1, rfl, rfl⟩
  · have := congrArg List.length h2
    simp at this; omega

theorem onlyFinal_append_lf {a : Bytes} (ha : NoCRLF a) : OnlyFinalCRLF (a ++ [LF]) := by
  intro pre suf h
  rcases crlf_concat_cases h with ⟨s', h1⟩ | ⟨_, _, h3⟩
  · exact absurd h1 (ha _ _)
  · exact h3

theorem noCRLF_append_cr {a : Bytes} (ha : NoCRLF a) : NoCRLF (a ++ [CR]) :=
  noCRLF_append ha (noCRLF_of_short (Nat.lt_succ_self 1)) fun h => absurd (Option.some.inj h.2) (by decide)

/-- needed only because `Multipart.Contract.stop` is stated relative to a first CRLF of the input (`FirstCRLF a`,
    which is `NoCRLF (a ++ [CR])`) and `Contract.line_before_crlf` applies it in front of any CRLF -/
theorem first_crlf_split (x y : Bytes) :
    ∃ a b, x ++ CR :: LF :: y = a ++ CR :: LF :: b ∧ NoCRLF (a ++ [CR]) ∧ a.length ≤ x.length := by
  induction hn : x.length using Nat.strongRecOn generalizing x y with
  | _ n ih =>
    by_cases hf : NoCRLF (x ++ [CR])
    · exact ⟨x, y, rfl, hf, by omega⟩
    · -- an earlier pair lies inside `x ++ [CR]`, and not at its very end
      simp only [NoCRLF, ne_eq, Classical.not_forall, Classical.not_not] at hf
      obtain ⟨pre, suf, he⟩ := hf
      rcases crlf_concat_cases he with ⟨s', rfl⟩ | ⟨_, h, _⟩
      · obtain ⟨a, b, hab, hfa, hle⟩ := ih pre.length (by rw [← hn]; simp) pre (s' ++ CR :: LF :: y) rfl
        exact ⟨a, b, by rw [← hab]; simp, hfa, by simp at hn; omega⟩
      · simp [CR, LF] at h

theorem findCRLF_some {b : Bytes} {lim p : Nat} (h : findCRLF b lim = some p) :
    p + 2 ≤ lim ∧ ∃ a rest, b = a ++ CR :: LF :: rest ∧ a.length = p ∧ NoCRLF (a ++ [CR]) := by
  fun_induction findCRLF b lim generalizing p with
  | case1 a b rest lim hl => simp at h
  | case2 a b rest lim hl hc =>
    obtain ⟨rfl, rfl⟩ := hc
    cases h
    exact ⟨by omega, [], rest, rfl, rfl, noCRLF_append_cr noCRLF_nil⟩
  | case3 x b rest lim hl hc ih =>
    simp only [Option.map_eq_some_iff] at h
    obtain ⟨q, hq, rfl⟩ := h
    obtain ⟨i1, a, r, hb, ha, hno⟩ := ih hq
    refine ⟨by omega, x :: a, r, by rw [hb]; rfl, by simp [ha], ?_⟩
    show NoCRLF (x :: (a ++ [CR]))
    refine noCRLF_cons hno fun ⟨h1, h2⟩ => hc ⟨h1, ?_⟩
    -- a pair at the very front would be the one the search has just not seen
    have : (b :: rest).head? = some LF := by
      rw [hb, List.head?_append]; rw [List.head?_append] at h2; exact h2
    exact Option.some.inj this
  | case4 b lim hx => simp at h

theorem findCRLF_none {b : Bytes} {lim : Nat} (h : findCRLF b lim = none) : NoCRLF (b.take lim) := by
  fun_induction findCRLF b lim with
  | case1 a b rest lim hl => exact noCRLF_of_short (by simp only [List.length_take]; omega)
  | case2 a b rest lim hl hc => simp at h
  | case3 a b rest lim hl hc ih =>
    simp only [Option.map_eq_none_iff] at h
    obtain ⟨l, rfl⟩ : ∃ l, lim = l + 1 := ⟨lim - 1, by omega⟩
    rw [List.take_succ_cons]
    refine noCRLF_cons (ih h) fun ⟨h1, h2⟩ => hc ⟨h1, ?_⟩
    rw [List.head?_take, if_neg (by omega)] at h2
    exact Option.some.inj h2
  | case4 b lim hx =>
    refine noCRLF_take_of (noCRLF_of_short ?_) _
    match b, hx with
    | [], _ => simp
    | [x], _ => simp
    | a :: c :: r, hx => exact absurd rfl (hx a c r)

theorem readlineLoop_line (size : Nat) (line : Bytes) (s : St) (hl : NoCRLF line) (hlen : line.length ≤ size) :
    OnlyFinalCRLF (readlineLoop size line s).1 ∧ (readlineLoop size line s).1.length ≤ size ∧
      (EndsCRLF (readlineLoop size line s).1 ∨ size ≤ (readlineLoop size line s).1.length
        ∨ (readlineLoop size line s).2.pending = []) := by
  fun_induction readlineLoop size line s with
  | case1 line s h => exact ⟨hl.onlyFinal, hlen, .inr (.inl h)⟩
  | case2 line s h hb => exact ⟨hl.onlyFinal, hlen, .inr (.inr (prep_empty_pending s _ (by omega) hb))⟩
  | case3 line s h hb hc =>
    obtain ⟨pre, rfl⟩ := List.getLast?_eq_some_iff.1 hc.1
    exact ⟨onlyFinal_append_lf hl, by simp at h ⊢; omega, .inl ⟨pre, by simp⟩⟩
  | case4 line s h hb hc p hf =>
    obtain ⟨hlim, a, rest, hbuf, ha, hno⟩ := findCRLF_some hf
    have htake : (s.prep (size - line.length)).buf.take (p + 2) = (a ++ [CR]) ++ [LF] := by
      rw [hbuf, ← ha, List.take_length_add_append]; simp
    refine ⟨onlyFinal_append hl (htake ▸ onlyFinal_append_lf hno) ?_, ?_, .inl ⟨line ++ a, by rw [htake]; simp⟩⟩
    · rw [List.head?_take, if_neg (by omega)]; exact hc
    · rw [htake]; simp; omega
  | case5 line s h hb hc hf ih =>
    refine ih (noCRLF_append hl (findCRLF_none hf) ?_) (by
      have := List.length_take_le (size - line.length) (s.prep (size - line.length)).buf
      simp only [List.length_append]; omega)
    rw [List.head?_take, if_neg (by omega)]; exact hc

/-- (where a CR is given back, what is left holds no CRLF pair at all: one would have had that CR behind it) -/
theorem giveBack_onlyFinal (sz : Nat) (r : Bytes × St) (h : OnlyFinalCRLF r.1) :
    OnlyFinalCRLF (giveBack sz r).1 := by
  rcases giveBack_eq sz r with e | ⟨pre', -, hpre, e⟩ <;> rw [e]
  · exact h
  · intro pre suf (e' : pre' = _)
    have := h pre (suf ++ [CR]) (by rw [hpre, e']; simp)
    simp at this

theorem onlyFinal_readline (s : St) (size : Nat) : OnlyFinalCRLF (readline s size).1 :=
  giveBack_onlyFinal _ _ (readlineLoop_line _ [] s noCRLF_nil (Nat.zero_le _)).1

/-- An empty line does not end in CRLF and has not reached a positive size limit: the input is exhausted. -/
theorem readline_complete (s : St) (size : Nat) (hsz : 0 < size) (h : (readline s size).1 = []) :
    s.pending = [] := by
  unfold readline at h
  have hnil : (readlineLoop (min size (s.buf.length + s.todo)) [] s).1 = [] := by
    rcases giveBack_eq _ _ with e | ⟨pre, hne, -, e⟩ <;> rw [e] at h
    · exact h
    · exact absurd h hne
  have hc := readlineLoop_conserve (min size (s.buf.length + s.todo)) [] s
  rw [hnil] at hc
  rcases (readlineLoop_line _ [] s noCRLF_nil (Nat.zero_le _)).2.2 with ⟨pre, he⟩ | hl | he
  · rw [hnil] at he
    exact absurd he (by simp)
  · -- the effective size is 0 for a positive `size`: nothing can be delivered
    have := pending_le_avail s
    rw [hnil] at hl
    exact List.length_eq_zero_iff.1 (by simp only [St.avail, List.length_nil] at *; omega)
  · exact hc.symm.trans he

/-- Why a `readline` result does not end in CRLF.  A line that stopped at the size limit ends in CR only
    if it is that one byte, or if nothing at all can follow: otherwise the CR has been given back. -/
theorem readline_stop (s : St) (size : Nat) :
    EndsCRLF (readline s size).1
    ∨ (min size (s.buf.length + s.todo) ≤ (readline s size).1.length ∧
        ((readline s size).1.getLast? = some CR →
          (readline s size).1.length ≤ 1 ∨ (readline s size).2.avail = 0))
    ∨ (readline s size).2.pending = []
    ∨ ((readline s size).2.buf.head? = some CR ∧
        min size (s.buf.length + s.todo) ≤ (readline s size).1.length + 1) := by
  unfold readline
  generalize min size (s.buf.length + s.todo) = sz
  obtain ⟨-, -, hcut⟩ := readlineLoop_line sz [] s noCRLF_nil (Nat.zero_le _)
  unfold giveBack
  split
  · next hc => exact .inr (.inr (.inr ⟨rfl, by simp only [List.length_dropLast]; omega⟩))
  · next hc =>
    rcases hcut with h | h | h
    · exact .inl h
    · refine .inr (.inl ⟨h, fun hcr => ?_⟩)
      by_cases h1 : (readlineLoop sz [] s).1.length ≤ 1
      · exact .inl h1
      · have h3 : ¬((readlineLoop sz [] s).2.buf ≠ [] ∨ (readlineLoop sz [] s).2.todo > 0) := fun h3 =>
          hc ⟨h, by omega, hcr, h3⟩
        simp only [not_or, ne_eq, Classical.not_not, Nat.not_lt, Nat.le_zero] at h3
        exact .inr (by simp [St.avail, h3])
    · exact .inr (.inr (.inl h))

theorem readline_cut (s : St) (size : Nat) :
    EndsCRLF (readline s size).1
    ∨ min size (s.buf.length + s.todo) ≤ (readline s size).1.length
    ∨ (readline s size).2.pending = []
    ∨ ((readline s size).2.buf.head? = some CR ∧
        min size (s.buf.length + s.todo) ≤ (readline s size).1.length + 1) :=
  (readline_stop s size).imp_right (Or.imp_left And.left)

theorem readline_not_past_crlf {s : St} {size : Nat} {a b : Bytes} (hp : s.pending = a ++ CR :: LF :: b)
    (hlong : a.length + 2 ≤ (readline s size).1.length) : (readline s size).1 = a ++ [CR, LF] := by
  have hcons := readline_conserve s size
  rw [hp] at hcons
  obtain ⟨t, ht, -⟩ := List.prefix_of_append_eq (l := a ++ [CR, LF]) (r := b) (by rw [hcons]; simp)
    (by simpa using hlong)
  rw [onlyFinal_readline s size a t (by rw [ht]; simp), List.append_nil] at ht
  exact ht

theorem readline_crlf {s : St} {size : Nat} {a b : Bytes} (hp : s.pending = a ++ CR :: LF :: b)
    (hfirst : NoCRLF (a ++ [CR])) (hsz : a.length + 2 ≤ min size (s.buf.length + s.todo)) :
    (readline s size).1 = a ++ [CR, LF] := by
  apply readline_not_past_crlf hp
  apply Classical.byContradiction
  intro hshort
  -- a shorter line is a front of `a ++ [CR]`: no reason to stop there holds
  have hcons := readline_conserve s size
  rw [hp] at hcons
  obtain ⟨t, ht1, ht2⟩ := List.prefix_of_append_eq (l := (readline s size).1) (x := a ++ [CR]) (y := LF :: b)
    (by rw [hcons]; simp) (by simp; omega)
  rcases readline_cut s size with ⟨pre, he⟩ | h | h | ⟨hh, h⟩
  · exact hfirst pre t (by rw [ht1, he]; simp)
  · omega
  · rw [h] at ht2
    cases t <;> cases ht2
  · -- the byte held back is a CR, but the next byte owed is the LF of the pair
    have ht : t = [] :=
      List.length_eq_zero_iff.mp (by have := congrArg List.length ht1; simp at this; omega)
    have := pending_head_of_buf hh
    rw [ht2, ht] at this
    simp [CR, LF] at this

theorem readline_last {s : St} {size : Nat} {a : Bytes} (hp : s.pending = a) (hcr : CR ∉ a)
    (hsz : a.length ≤ size) : (readline s size).1 = a := by
  have hcons := readline_conserve s size
  rw [hp] at hcons
  have hav := pending_le_avail s
  rw [hp] at hav
  simp only [St.avail] at hav
  have hlen := congrArg List.length hcons
  simp only [List.length_append] at hlen
  have hfull : (readline s size).2.pending = [] → (readline s size).1 = a := fun h => by
    rw [h] at hcons; simpa using hcons
  rcases readline_cut s size with ⟨pre, he⟩ | h | h | ⟨hh, h⟩
  · exact absurd (by rw [← hcons, he]; simp) hcr
  · exact hfull (List.length_eq_zero_iff.mp (by omega))
  · exact hfull h
  · exact absurd (by rw [← hcons]; simp [List.mem_of_head? (pending_head_of_buf hh)]) hcr

end Poor.Reader
