import PoorModel.Regex
/-
The backtracking matcher `ms` returns exactly the residuals the language `Lang` allows: soundness by
induction on the expression, completeness by induction on the derivation.  `Has` forgets captures and
priority order; `repIter` is unfolded in `repIter_done` and `repIter_step` and nowhere else.
-/
namespace Poor.Regex
open Poor

/-- `Lang u r s t`: the expression `r` can consume a prefix of `s` leaving `t` -/
inductive Lang (u : UTables) : Re → Str → Str → Prop
  | eps {s} : Lang u .eps s s
  | cls {items neg x xs} : clsTest u items neg x = true → Lang u (.cls items neg) (x :: xs) xs
  | any {x xs} : (x != '\n') = true → Lang u .any (x :: xs) xs
  | seq {a b s t v} : Lang u a s t → Lang u b t v → Lang u (.seq a b) s v
  | altL {a b s t} : Lang u a s t → Lang u (.alt a b) s t
  | altR {a b s t} : Lang u b s t → Lang u (.alt a b) s t
  | repStop {a mx g s} : Lang u (.rep a 0 mx g) s s
  | repStep {a mn mx g s t v} : mx ≠ some 0 → Lang u a s t →
      Lang u (.rep a (mn - 1) (mx.map (· - 1)) g) t v → Lang u (.rep a mn mx g) s v
  | group {i n a s t} : Lang u a s t → Lang u (.group i n a) s t
  | bol {s} : Lang u .bol s s      -- at any position: the restriction to the start of the subject is `BolOK`
  | eol {s} : (s = [] ∨ s = ['\n']) → Lang u .eol s s
  | eos {s} : s = [] → Lang u .eos s s

def Has (res : Res) (t : Str) : Prop := ∃ c', (t, c') ∈ res

/-! `Has` through the list operations the matcher is built from -/
section
variable {v : Str}

theorem has_nil : ¬ Has [] v := fun ⟨_, h⟩ => nomatch h

theorem has_cons {m : Str × Caps} {a : Res} : Has (m :: a) v ↔ v = m.1 ∨ Has a v := by
  simp only [Has, List.mem_cons, exists_or]
  exact or_congr_left ⟨fun ⟨_, h⟩ => congrArg Prod.fst h, fun h => ⟨m.2, h ▸ rfl⟩⟩

theorem has_append {a b : Res} : Has (a ++ b) v ↔ Has a v ∨ Has b v := by
  simp only [Has, List.mem_append, exists_or]

theorem has_flatMap {l : Res} {F : Str × Caps → Res} : Has (l.flatMap F) v ↔ ∃ m ∈ l, Has (F m) v := by
  simp only [Has, List.mem_flatMap]
  exact ⟨fun ⟨c', m, h1, h2⟩ => ⟨m, h1, c', h2⟩, fun ⟨m, h1, c', h2⟩ => ⟨c', m, h1, h2⟩⟩

end

/-! what `repIter` returns: without a pass left, and with one -/
section
variable {f : Str → Caps → Res} {g : Bool} {fuel mn : Nat} {mx : Option Nat} {s : Str} {c : Caps} {v : Str}

theorem repIter_done (h : fuel = 0 ∨ mx = some 0) : Has (repIter f g fuel mn mx s c) v ↔ mn = 0 ∧ v = s := by
  have : repIter f g fuel mn mx s c = if mn = 0 then [(s, c)] else [] := by
    cases fuel with
    | zero => rfl
    | succ fuel => simp [repIter, h.resolve_left (by omega)]
  rw [this]
  split <;> simp [Has, *]

/-- the two ways on are those of `Lang.repStop` and `Lang.repStep`: stop if no pass is owed, or run the body once
    and go on with one pass less - except that an optional pass that consumed nothing ends the loop where it
    stands (sre's rule) -/
theorem repIter_step (hm : mx ≠ some 0) :
    Has (repIter f g (fuel + 1) mn mx s c) v ↔
      mn = 0 ∧ v = s ∨ ∃ m ∈ f s c,
        if mn > 0 ∨ m.1.length < s.length then Has (repIter f g fuel (mn - 1) (mx.map (· - 1)) m.1 m.2) v
        else v = m.1 := by
  by_cases hmn : mn > 0
  · simp only [repIter, if_neg hm, has_flatMap, Nat.ne_of_gt hmn, false_and, false_or, hmn, true_or, if_true]
  · obtain rfl : mn = 0 := by omega
    simp only [repIter, if_neg hm, hmn, if_false, true_and, false_or, Nat.zero_sub]
    -- greedy or not only decides where `(s, c)` stands among the results
    cases g
    · simp only [Bool.false_eq_true, if_false, has_cons, has_flatMap, apply_ite (Has · v), has_nil, or_false]
    · simp only [if_true, has_append, has_cons, has_flatMap, apply_ite (Has · v), has_nil, or_false]
      exact or_comm

theorem repIter_stop : Has (repIter f g fuel 0 mx s c) s := by
  by_cases h : fuel = 0 ∨ mx = some 0
  · exact (repIter_done h).mpr ⟨rfl, rfl⟩
  · obtain ⟨fuel, rfl⟩ : ∃ k, fuel = k + 1 := ⟨fuel - 1, by omega⟩
    exact (repIter_step fun hm => h (.inr hm)).mpr (.inl ⟨rfl, rfl⟩)

end

theorem repIter_sound (u : UTables) (f : Str → Caps → Res) (a : Re) (g : Bool)
    (hf : ∀ s c t, Has (f s c) t → Lang u a s t) :
    ∀ fuel mn mx s c t, Has (repIter f g fuel mn mx s c) t → Lang u (.rep a mn mx g) s t := by
  intro fuel
  induction fuel with
  | zero =>
    intro mn mx s c t h
    obtain ⟨rfl, rfl⟩ := (repIter_done (.inl rfl)).mp h
    exact .repStop
  | succ fuel ih =>
    intro mn mx s c t h
    by_cases hm : mx = some 0
    · obtain ⟨rfl, rfl⟩ := (repIter_done (.inr hm)).mp h
      exact .repStop
    · obtain ⟨rfl, rfl⟩ | ⟨m, hmem, hr⟩ := (repIter_step hm).mp h
      · exact .repStop
      · refine .repStep hm (hf s c m.1 ⟨m.2, hmem⟩) ?_
        split at hr
        · exact ih _ _ _ _ _ hr
        · obtain rfl : mn = 0 := by omega
          exact hr ▸ .repStop

/-- **soundness**: every success the matcher reports (in whatever backtracking priority)
    is a genuine match of the expression: the consumed prefix belongs to its language -/
theorem ms_sound (u : UTables) : ∀ (r : Re) (st : Bool) (s : Str) (c : Caps) (x : Str × Caps),
    x ∈ ms u r st s c → Lang u r s x.1 := by
  intro r st s c x h
  induction r generalizing st s c x with
  | eps =>
    simp only [ms, List.mem_singleton] at h
    subst h
    exact .eps
  | cls items neg =>
    cases s with
    | nil => simp [ms] at h
    | cons y ys =>
      simp only [ms, List.mem_ite_nil_right, List.mem_singleton] at h
      obtain ⟨hy, rfl⟩ := h
      exact .cls hy
  | any =>
    cases s with
    | nil => simp [ms] at h
    | cons y ys =>
      simp only [ms, List.mem_ite_nil_right, List.mem_singleton] at h
      obtain ⟨hy, rfl⟩ := h
      exact .any hy
  | seq a b iha ihb =>
    simp only [ms, List.mem_flatMap] at h
    obtain ⟨m, hm, hx⟩ := h
    exact .seq (iha st s c m hm) (ihb false m.1 m.2 x hx)
  | alt a b iha ihb =>
    simp only [ms, List.mem_append] at h
    rcases h with h | h
    · exact .altL (iha st s c x h)
    · exact .altR (ihb st s c x h)
  | rep a mn mx g iha =>
    simp only [ms] at h
    exact repIter_sound u (ms u a false) a g (fun s c t ⟨c', h⟩ => iha false s c (t, c') h) _ mn mx s c x.1 ⟨x.2, h⟩
  | group i n a iha =>
    simp only [ms, List.mem_map] at h
    obtain ⟨m, hm, rfl⟩ := h
    exact .group (iha st s c m hm)
  | bol =>
    simp only [ms, List.mem_ite_nil_right, List.mem_singleton] at h
    obtain ⟨_, rfl⟩ := h
    exact .bol
  | eol =>
    simp only [ms, List.mem_ite_nil_right, List.mem_singleton] at h
    obtain ⟨hs, rfl⟩ := h
    exact .eol hs
  | eos =>
    simp only [ms, List.mem_ite_nil_right, List.mem_singleton] at h
    obtain ⟨hs, rfl⟩ := h
    exact .eos hs

theorem lang_suffix {u : UTables} {r : Re} {s t : Str} (h : Lang u r s t) : t <:+ s := by
  induction h with
  | eps | repStop | bol | eol _ | eos _ => exact List.suffix_refl _
  | cls _ | any _ => exact List.suffix_cons _ _
  | seq _ _ iha ihb | repStep _ _ _ iha ihb => exact ihb.trans iha
  | altL _ ih | altR _ ih | group _ ih => exact ih

/-- an expression that ends in `\Z` matches only by consuming the whole subject -/
theorem seq_eos_full {u : UTables} {a : Re} {s t : Str} (h : Lang u (.seq a .eos) s t) :
    t = [] ∧ Lang u a s [] := by
  cases h with
  | seq ha hb =>
    cases hb with
    | eos he => subst he; exact ⟨rfl, ha⟩

/-- order on repetition bounds: `none` is "no upper bound" -/
def mxLe : Option Nat → Option Nat → Prop
  | _, none => True
  | none, some _ => False
  | some a, some b => a ≤ b

theorem mxLe_pred : ∀ {a b : Option Nat}, mxLe a b → mxLe (a.map (· - 1)) (b.map (· - 1))
  | none, none, _ | some _, none, _ => trivial
  | some _, some _, h => Nat.sub_le_sub_right h 1

theorem mxLe_pred_self : ∀ a : Option Nat, mxLe (a.map (· - 1)) a
  | none => trivial
  | some a => Nat.sub_le a 1

theorem mxLe_refl : ∀ a : Option Nat, mxLe a a
  | none => trivial
  | some a => Nat.le_refl a

theorem mxLe_ne_zero {a b : Option Nat} (h : mxLe a b) (ha : a ≠ some 0) : b ≠ some 0 := by
  rintro rfl
  cases a with
  | none => exact h
  | some a => exact ha (congrArg some (Nat.le_zero.mp h))

theorem repIter_mono {f : Str → Caps → Res} {g : Bool} {fuel fuel' mn : Nat} {mx mx' : Option Nat} {s : Str}
    {c : Caps} {v : Str} (hle : fuel ≤ fuel') (hmx : mxLe mx mx') (h : Has (repIter f g fuel mn mx s c) v) :
    Has (repIter f g fuel' mn mx' s c) v := by
  induction fuel generalizing fuel' mn mx mx' s c with
  | zero =>
    obtain ⟨rfl, rfl⟩ := (repIter_done (.inl rfl)).mp h
    exact repIter_stop
  | succ fuel ih =>
    obtain ⟨fuel', rfl⟩ : ∃ k, fuel' = k + 1 := ⟨fuel' - 1, by omega⟩
    by_cases hm0 : mx = some 0
    · obtain ⟨rfl, rfl⟩ := (repIter_done (.inr hm0)).mp h
      exact repIter_stop
    · rw [repIter_step hm0] at h
      rw [repIter_step (mxLe_ne_zero hmx hm0)]
      refine h.imp_right fun ⟨m, hmem, h⟩ => ⟨m, hmem, ?_⟩
      split
      · exact ih (by omega) (mxLe_pred hmx) ((if_pos ‹_›).mp h)
      · exact (if_neg ‹_›).mp h

/-- `^` may only stand where the matcher is still at the start of the subject -/
def BolOK : Re → Bool → Prop
  | .bol, st => st = true
  | .seq a b, st => BolOK a st ∧ BolOK b false
  | .alt a b, st => BolOK a st ∧ BolOK b st
  | .rep a _ _ _, _ => BolOK a false
  | .group _ _ a, st => BolOK a st
  | _, _ => True

/-- **completeness**: whatever the expression can consume, the backtracking matcher finds - every residual
    of the language is among its results (the empty-iteration rule of sre loses nothing) -/
theorem ms_complete (u : UTables) {r : Re} {s t : Str} (h : Lang u r s t) :
    ∀ (st : Bool) (c : Caps), BolOK r st → Has (ms u r st s c) t := by
  induction h with
  | eps => intro st c _; exact ⟨c, by simp [ms]⟩
  | cls hx => intro st c _; exact ⟨c, by simp [ms, hx]⟩
  | any hx => intro st c _; exact ⟨c, by simp [ms, hx]⟩
  | seq _ _ iha ihb =>
    intro st c hb
    obtain ⟨c1, h1⟩ := iha st c hb.1
    exact has_flatMap.mpr ⟨_, h1, ihb false c1 hb.2⟩
  | altL _ ih => exact fun st c hb => has_append.mpr (.inl (ih st c hb.1))
  | altR _ ih => exact fun st c hb => has_append.mpr (.inr (ih st c hb.2))
  | repStop =>
    intro st c _
    simp only [ms]
    exact repIter_stop
  | @repStep a mn mx g s t v hm ha hrest iha ihrest =>
    intro st c hb
    simp only [ms]
    obtain ⟨c1, h1⟩ := iha false c hb
    have hlen := (lang_suffix ha).length_le
    have hr (c' : Caps) := ihrest false c' hb
    simp only [ms] at hr
    rw [repIter_step hm]
    -- `hr` runs the rest on the fuel `ms` gives it, `(mn - 1) + t.length + 1`; what is left here after one pass,
    -- `mn + s.length`, is at least that: by `hlen`, and for `mn = 0` because the pass consumed something
    by_cases hgo : mn > 0 ∨ t.length < s.length
    · exact .inr ⟨(t, c1), h1, (if_pos hgo).mpr (repIter_mono (by omega) (mxLe_refl _) (hr c1))⟩
    · -- an optional pass that consumed nothing: the rest of the derivation starts from the same place
      obtain rfl : mn = 0 := by omega
      obtain rfl := (lang_suffix ha).eq_of_length_le (by omega)
      exact (repIter_step hm).mp (repIter_mono (by omega) (mxLe_pred_self mx) (hr c))
  | group _ ih =>
    intro st c hb
    obtain ⟨c1, h1⟩ := ih st c hb
    exact ⟨_, by simp only [ms, List.mem_map]; exact ⟨_, h1, rfl⟩⟩
  | bol => intro st c hb; have : st = true := hb; subst this; exact ⟨c, by simp [ms]⟩
  | eol hx => intro st c _; exact ⟨c, by simp [ms, hx]⟩
  | eos hx => intro st c _; exact ⟨c, by simp [ms, hx]⟩

/-- `pattern.match(s)` succeeds exactly when some prefix of the subject belongs to the language -/
theorem pyMatch_iff (u : UTables) (r : Re) (hb : BolOK r true) (s : Str) :
    (pyMatch u r s).isSome = true ↔ ∃ t, Lang u r s t := by
  rw [pyMatch, Option.isSome_map, List.isSome_head?]
  constructor
  · intro h
    obtain ⟨x, hx⟩ := List.exists_mem_of_ne_nil _ h
    exact ⟨x.1, ms_sound u r true s [] x hx⟩
  · rintro ⟨t, ht⟩
    obtain ⟨c', hc'⟩ := ms_complete u ht true [] hb
    exact List.ne_nil_of_mem hc'

end Poor.Regex
