/-
Facts about lists that the proofs about the models share and core does not have, for any element type
and any test.

Most say what a scanner does to a rendered text: `takeWhile` / `dropWhile` consume a stretch that satisfies
the test and stop at the first element that does not.  There is no `List.strip`: the `strip_*` lemmas speak of
`((s.dropWhile p).reverse.dropWhile p).reverse`, which is what each model's own `strip` (or `stripQuotes`)
unfolds to, so they apply to all of them; it leaves a text alone whose two ends fail the test.
-/
namespace List
variable {α : Type} {p : α → Bool}

theorem takeWhile_append_stop {a r : List α} (ha : ∀ x ∈ a, p x = true)
    (hr : ∀ x, r.head? = some x → p x = false) : (a ++ r).takeWhile p = a := by
  rw [takeWhile_append_of_pos ha]
  cases r with
  | nil => simp
  | cons x t => rw [takeWhile_cons_of_neg (by simp [hr x rfl]), append_nil]

theorem dropWhile_append_stop {a r : List α} (ha : ∀ x ∈ a, p x = true)
    (hr : ∀ x, r.head? = some x → p x = false) : (a ++ r).dropWhile p = r := by
  rw [dropWhile_append_of_pos ha]
  cases r with
  | nil => rfl
  | cons x t => exact dropWhile_cons_of_neg (by simp [hr x rfl])

theorem takeWhile_append_cons {a t : List α} {c : α} (ha : ∀ x ∈ a, p x = true) (hc : p c = false) :
    (a ++ c :: t).takeWhile p = a :=
  takeWhile_append_stop ha (by rintro _ ⟨⟩; exact hc)

theorem dropWhile_append_cons {a t : List α} {c : α} (ha : ∀ x ∈ a, p x = true) (hc : p c = false) :
    (a ++ c :: t).dropWhile p = c :: t :=
  dropWhile_append_stop ha (by rintro _ ⟨⟩; exact hc)

theorem span_append_stop {a r : List α} (ha : ∀ x ∈ a, p x = true)
    (hr : ∀ x, r.head? = some x → p x = false) : (a ++ r).takeWhile p = a ∧ (a ++ r).dropWhile p = r :=
  ⟨takeWhile_append_stop ha hr, dropWhile_append_stop ha hr⟩

theorem span_ne_append_cons [BEq α] [LawfulBEq α] {a : List α} {c : α} (h : ∀ x ∈ a, x ≠ c) (t : List α) :
    (a ++ c :: t).takeWhile (· != c) = a ∧ (a ++ c :: t).dropWhile (· != c) = c :: t :=
  span_append_stop (fun x hx => bne_iff_ne.2 (h x hx)) (by rintro _ ⟨⟩; exact bne_self_eq_false c)

theorem takeWhile_of_all {l : List α} (h : ∀ x ∈ l, p x = true) : l.takeWhile p = l := by
  simpa using takeWhile_append_stop (r := []) h (by simp)

theorem dropWhile_of_all {l : List α} (h : ∀ x ∈ l, p x = true) : l.dropWhile p = [] := by
  simpa using dropWhile_append_stop (r := []) h (by simp)

theorem dropWhile_of_head {s : List α} (h : ∀ x, s.head? = some x → p x = false) : s.dropWhile p = s := by
  simpa using dropWhile_append_stop (a := []) (by simp) h

theorem dropWhile_eq_nil {l : List α} (h : l.dropWhile p = []) : ∀ x ∈ l, p x = true := by
  have := any_dropWhile (l := l) (p := p)
  rw [h] at this
  simpa using this

theorem strip_eq_self {s : List α} (h1 : ∀ x, s.head? = some x → p x = false)
    (h2 : ∀ x, s.getLast? = some x → p x = false) : ((s.dropWhile p).reverse.dropWhile p).reverse = s := by
  rw [dropWhile_of_head h1, dropWhile_of_head (by simpa using h2), reverse_reverse]

theorem strip_append_all {a b : List α} (s : List α) (ha : ∀ x ∈ a, p x = true) (hb : ∀ x ∈ b, p x = true) :
    (((a ++ s ++ b).dropWhile p).reverse.dropWhile p).reverse = ((s.dropWhile p).reverse.dropWhile p).reverse := by
  have hb' : ∀ x ∈ b.reverse, p x = true := fun x hx => hb x (mem_reverse.1 hx)
  rw [append_assoc, dropWhile_append_of_pos ha, dropWhile_append]
  split
  · rename_i h
    rw [isEmpty_iff.1 h, ← append_nil b, dropWhile_append_of_pos hb]
    rfl
  · rw [reverse_append, dropWhile_append_of_pos hb']

theorem strip_append_right {s b : List α} (h1 : ∀ x, s.head? = some x → p x = false)
    (h2 : ∀ x, s.getLast? = some x → p x = false) (hb : ∀ x ∈ b, p x = true) :
    (((s ++ b).dropWhile p).reverse.dropWhile p).reverse = s :=
  (strip_append_all (a := []) s (by simp) hb).trans (strip_eq_self h1 h2)

theorem strip_ne_nil {s : List α} {x : α} (hx : x ∈ s) (hp : p x = false) :
    ((s.dropWhile p).reverse.dropWhile p).reverse ≠ [] := by
  intro h
  have hall := dropWhile_eq_nil (reverse_eq_nil_iff.1 h)
  have hne : s.dropWhile p ≠ [] := fun h0 => by simpa [hp] using dropWhile_eq_nil h0 x hx
  have := head_dropWhile_not p hne
  rw [hall _ (mem_reverse.2 (head_mem hne))] at this
  cases this

theorem append_cons_left_inj [BEq α] [LawfulBEq α] {a a' s s' : List α} {c : α} (ha : c ∉ a) (ha' : c ∉ a')
    (h : a ++ c :: s = a' ++ c :: s') : a = a' := by
  have key : ∀ {a : List α}, c ∉ a → ∀ x ∈ a, x ≠ c := fun ha x hx e => ha (e ▸ hx)
  rw [← (span_ne_append_cons (key ha) s).1, h, (span_ne_append_cons (key ha') s').1]

theorem prefix_of_append_eq {l r x y : List α} (h : l ++ r = x ++ y) (hl : l.length ≤ x.length) :
    ∃ t, x = l ++ t ∧ r = t ++ y := by
  obtain ⟨t, rfl⟩ := prefix_of_prefix_length_le (prefix_append l r) (h ▸ prefix_append x y) hl
  exact ⟨t, rfl, append_cancel_left (h.trans (append_assoc ..))⟩

theorem getLast?_append_of_ne_nil (a : List α) {b : List α} (hb : b ≠ []) : (a ++ b).getLast? = b.getLast? := by
  rw [getLast?_append, getLast?_eq_some_getLast hb]
  rfl

theorem mem_intercalate {sep : List α} {ls : List (List α)} {x : α} (h : x ∈ sep.intercalate ls) :
    x ∈ sep ∨ ∃ l ∈ ls, x ∈ l := by
  induction ls with
  | nil => cases h
  | cons l t ih =>
    cases t with
    | nil => exact .inr ⟨l, mem_cons_self, by rwa [intercalate_singleton] at h⟩
    | cons l' t' =>
      rw [intercalate_cons_cons, mem_append, mem_append] at h
      rcases h with (h | h) | h
      · exact .inr ⟨l, mem_cons_self, h⟩
      · exact .inl h
      · exact (ih h).imp_right fun ⟨m, hm, hx⟩ => ⟨m, mem_cons_of_mem _ hm, hx⟩

theorem foldl_congr_mem {β : Type} {f g : β → α → β} {l : List α} (h : ∀ b, ∀ a ∈ l, f b a = g b a) (b : β) :
    l.foldl f b = l.foldl g b :=
  foldl_rel (r := Eq) rfl fun a ha c _ e => e ▸ h c a ha

theorem foldl_append_fresh {κ : Type} {f : List α → α → List α} (key : α → κ)
    (hf : ∀ d b, key b ∉ d.map key → f d b = d ++ [b]) (d ps : List α) (h : ((d ++ ps).map key).Nodup) :
    ps.foldl f d = d ++ ps := by
  induction ps generalizing d with
  | nil => simp
  | cons b t ih =>
    have hnew : key b ∉ d.map key := fun hm => by
      rw [map_append, map_cons] at h
      exact (nodup_append.1 h).2.2 _ hm _ mem_cons_self rfl
    rw [foldl_cons, hf d b hnew, ih _ (by simpa using h), append_assoc]
    rfl

theorem mapM_cons_some {β : Type} {f : α → Option β} {a : α} {b : β} {l : List α} {bs : List β}
    (h : f a = some b) (hl : l.mapM f = some bs) : (a :: l).mapM f = some (b :: bs) := by
  rw [mapM_cons, h, hl]
  rfl

theorem mapM_map_eq_some {β : Type} {f : α → β} {g : β → Option α} {l : List α}
    (h : ∀ a ∈ l, g (f a) = some a) : (l.map f).mapM g = some l := by
  induction l with
  | nil => rfl
  | cons a t ih => exact mapM_cons_some (h a mem_cons_self) (ih fun x hx => h x (mem_cons_of_mem _ hx))

theorem mem_of_lookup_eq_some {β : Type} [BEq α] [LawfulBEq α] {c : α} {r : β} {t : List (α × β)}
    (h : t.lookup c = some r) : (c, r) ∈ t := by
  obtain ⟨_, _, rfl, _⟩ := lookup_eq_some_iff.mp h
  simp

end List
