import PoorModel.Headers
import PoorProofs.Lemmas.Scan
/-
The two codecs of `Poor.Headers` undo each other: latin-1 on bytes, UTF-8 on text.  Used wherever text
crosses the wire: header values (C01, C14), Digest credentials (C11), form, multipart and JSON bodies
(C05, C08, C10, C13).
-/
namespace Poor.Headers
open Poor

theorem toNat_ofNat_small (n : Nat) (h : n < 256) : (Char.ofNat n).toNat = n := by
  have hv : n.isValidChar := Or.inl (by omega)
  rw [Char.ofNat, dif_pos hv]
  rfl

theorem latin1enc_latin1dec (b : Bytes) : latin1enc (latin1dec b) = some b :=
  List.mapM_map_eq_some fun x _ => by
    rw [toNat_ofNat_small _ x.toNat_lt, if_pos x.toNat_lt, UInt8.ofNat_toNat]

theorem utf8dec_utf8enc (s : Str) : utf8dec (utf8enc s) = some s := by
  unfold utf8dec utf8enc
  have h1 : (ByteArray.mk (s.flatMap String.utf8EncodeChar).toArray) = s.utf8Encode := by
    apply ByteArray.ext
    simp [List.utf8Encode]
  rw [h1, List.utf8Decode?_utf8Encode]
  simp

theorem utf8_iso (s : Str) : utf8 (iso s) = s := by
  unfold utf8 iso
  rw [latin1enc_latin1dec]
  simp only [utf8dec_utf8enc]

theorem utf8enc_append (a b : Str) : utf8enc (a ++ b) = utf8enc a ++ utf8enc b :=
  List.flatMap_append

end Poor.Headers
