import PoorModel.Wsgi
/-
Three layers over the request model.  What `make_response`, `to_response` and
`HTTPException.make_response` can return; the equations of the ladder's definitions, for the cases of
their input that C04 speaks of (its statements are terms over them); and a generic invariant: any
predicate `P` on response objects that holds of the built-in pages, of everything `to_response`
makes from admissible values and of everything `HTTPException.make_response` makes from
admissible exceptions, holds of the response that reaches the emission step - for every
configuration and every program (C01 instantiates it twice).
-/
namespace Poor.Wsgi
open Poor Poor.Response

theorem makeResponse_some {reasons : List (Nat × String)} {d : Val} {ct : Option Str} {hd : HdrArg} {st : Nat}
    {r : Resp} (h : makeResponse reasons d ct hd st = some r) :
    knownStatus reasons st = true ∧ initHeaders hd = some r.headers ∧ r.cls ≠ .declined ∧
      (r.status = st ∨ r.status = 204) := by
  unfold makeResponse at h
  split at h
  · cases h
  · rename_i hk
    split at h
    · cases h
    · rename_i hs hi
      refine ⟨by simpa using hk, ?_⟩
      -- only the `None` body changes the status: 200 becomes 204
      split at h <;> cases h <;> exact ⟨hi, nofun, by
        first | exact .inl rfl | exact iteInduction (motive := fun x => x = st ∨ x = 204) (fun _ => .inr rfl) fun _ => .inl rfl⟩

theorem toResponse_junk (reasons : List (Nat × String)) : toResponse reasons .junk = .respErr := by
  simp only [toResponse, makeResponse]
  split
  · rename_i h; split at h <;> first | cases h | (split at h <;> cases h)
  · rfl

/-- the clause on `hd` traces a pair list among `make_response`'s arguments back to an item of the tuple:
    user headers get in this way only (C01 constrains just those items, `GoodVal`) -/
theorem toResponse_ok {reasons : List (Nat × String)} {v : Val} {r : Resp} (h : toResponse reasons v = .ok r) :
    v = .resp r ∨ ∃ d ct hd st, makeResponse reasons d ct hd st = some r ∧
      ∀ hs, hd = .pairs hs → ∃ data items, v = .tuple data items ∧ TupItem.hdrs (.pairs hs) ∈ items := by
  unfold toResponse at h
  split at h
  · cases h; exact .inl rfl
  · split at h
    · cases h
    · dsimp only at h
      split at h
      · cases h
      · split at h
        · cases h
          refine .inr ⟨_, _, _, _, ‹_›, fun hs hh => ⟨_, _, rfl, ?_⟩⟩
          split at hh
          · cases hh
          · cases hh; exact List.mem_of_getElem? ‹_›
          · cases hh
        · cases h
      · cases h
  · split at h
    · cases h; exact .inr ⟨_, _, _, _, ‹_›, fun _ hh => by cases hh⟩
    · cases h

theorem excMakeResponse_some {e : Exc} {r : Resp} (h : excMakeResponse e = some r) :
    e = .httpResp r ∨ (∃ kw nr, e = .http 0 kw nr ∧ r = ⟨.declined, 200, [], [], [], 0⟩) ∨
      ∃ kw nr, e = .http 200 kw nr ∧ r = ⟨.noContent, 204, xPoweredBy, [], [], 0⟩ := by
  unfold excMakeResponse at h
  split at h <;> cases h
  · exact .inl rfl
  · exact .inr (.inl ⟨_, _, rfl, rfl⟩)
  · exact .inr (.inr ⟨_, _, rfl, rfl⟩)

section Equations
variable {app : App} {p : Prog} {t t1 : Trace} {s i : Nat} {kw nr : Bool} {v : Val} {r : Resp} {e x : Exc}

theorem excMakeResponse_http (h0 : s ≠ 0) (h200 : s ≠ 200) : excMakeResponse (.http s kw nr) = none := by
  refine Option.eq_none_iff_forall_ne_some.mpr fun r hr => ?_
  obtain h | ⟨_, _, h, _⟩ | ⟨_, _, h, _⟩ := excMakeResponse_some hr <;> cases h <;> contradiction

theorem callT_ret {st : Site} {ev : Ev} (h : p st = .ret v) : callT p st ev t = R.ok (t ++ [ev]) v := by
  simp [callT, h, R.ok]

theorem callT_raise {st : Site} {ev : Ev} (h : p st = .raise x) : callT p st ev t = R.err (t ++ [ev]) x := by
  simp [callT, h, R.err]

theorem coerce_ok (h : toResponse app.reasons v = .ok r) : coerce app t v = R.ok t r := by
  simp [coerce, h]

theorem coerce_respErr (h : toResponse app.reasons v = .respErr) : coerce app t v = R.err t .respErr := by
  simp [coerce, h]

theorem stateFromTable_ret (hu : s ∈ app.userStatus) (hv : p (.status s) = .ret v) :
    stateFromTable app p s kw nr t = R.ok (t ++ [.status s]) v := by
  simp [stateFromTable, hu, callT_ret hv, R.ok]

theorem stateFromTable_raise_made (hu : s ∈ app.userStatus) (hv : p (.status s) = .raise x)
    (hm : excMakeResponse x = some r) : stateFromTable app p s kw nr t = R.ok (t ++ [.status s]) (.resp r) := by
  obtain rfl | ⟨_, _, rfl, rfl⟩ | ⟨_, _, rfl, rfl⟩ := excMakeResponse_some hm <;>
    simp [stateFromTable, hu, callT_raise hv, R.err, excMakeResponse]

theorem stateFromTable_raise_500 (hu : s ∈ app.userStatus) (hv : p (.status s) = .raise x)
    (hm : excMakeResponse x = none) (hx : x.isException = true) :
    stateFromTable app p s kw nr t = R.ok (t ++ [.status s, .page 500]) (.resp (pageResp 500)) := by
  cases x <;> simp [stateFromTable, hu, callT_raise hv, R.err, R.ok, hm, hx]

theorem stateFromTable_builtin (hu : s ∉ app.userStatus) (hb : s ∈ app.builtinPages) (h304 : s ≠ 304)
    (h401 : ¬(s = 401 ∧ app.digestAuth = true)) :
    stateFromTable app p s false nr t = R.ok (t ++ [.page s]) (.resp (pageResp s)) := by
  simp [stateFromTable, hu, hb, h304, h401]

theorem stateFromTable_501 (hu : s ∉ app.userStatus) (hb : s ∉ app.builtinPages) :
    stateFromTable app p s kw nr t = R.ok (t ++ [.page 501]) (.resp (pageResp 501)) := by
  simp [stateFromTable, hu, hb]

theorem ladder_http (h0 : s ≠ 0) (h200 : s ≠ 200) (hs : stateFromTable app p s kw nr t = R.ok t1 v) :
    ladder app p t (.http s kw nr) = ((guarded (coerce app t1 v)).1, some (guarded (coerce app t1 v)).2) := by
  simp [ladder, excMakeResponse_http h0 h200, hs, R.ok]

theorem ladder_http_ok (h0 : s ≠ 0) (h200 : s ≠ 200) (hs : stateFromTable app p s kw nr t = R.ok t1 v)
    (hr : toResponse app.reasons v = .ok r) : ladder app p t (.http s kw nr) = (t1, some r) := by
  rw [ladder_http h0 h200 hs, coerce_ok hr]; rfl

theorem ladder_http_respErr (h0 : s ≠ 0) (h200 : s ≠ 200) (hs : stateFromTable app p s kw nr t = R.ok t1 v)
    (hr : toResponse app.reasons v = .respErr) :
    ladder app p t (.http s kw nr) = (t1 ++ [.page 500], some (pageResp 500)) := by
  rw [ladder_http h0 h200 hs, coerce_respErr hr]; rfl

theorem errorFromTable_none (hf : findExcHandler app e = none) : errorFromTable app p e t = R.ok t none := by
  simp [errorFromTable, hf]

theorem errorFromTable_ret (hf : findExcHandler app e = some i) (hv : p (.exch i) = .ret v)
    (hr : toResponse app.reasons v = .ok r) : errorFromTable app p e t = R.ok (t ++ [.exch i]) (some r) := by
  simp [errorFromTable, hf, callT_ret hv, coerce_ok hr, R.ok]

theorem errorFromTable_raise {c : Nat} (hf : findExcHandler app e = some i) (hv : p (.exch i) = .raise (.other c)) :
    errorFromTable app p e t = R.ok (t ++ [.exch i, .page 500]) (some (pageResp 500)) := by
  simp [errorFromTable, hf, callT_raise hv, R.err, R.ok, Exc.isException, Exc.classId]

theorem errorResponse_some (h : errorFromTable app p e t = R.ok t1 (some r)) :
    errorResponse app p e t = (t1, r) := by
  simp [errorResponse, h, R.ok, guarded]

theorem errorResponse_none (h : errorFromTable app p e t = R.ok t1 none) :
    errorResponse app p e t = guarded (fallback500 app p t1) := by
  simp [errorResponse, h, R.ok]

theorem ladder_other {c : Nat} (h : errorResponse app p (.other c) t = (t1, r)) :
    ladder app p t (.other c) = (t1, some r) := by
  simp [ladder, h]

theorem fallback500_eq (hs : stateFromTable app p 500 false false t = R.ok t1 v) :
    fallback500 app p t = coerce app t1 v := by
  simp [fallback500, hs, R.ok]

theorem ladder_some (hc : x ≠ .conn) (hs : x ≠ .sysExit) : ∃ t1 r, ladder app p t x = (t1, some r) := by
  unfold ladder
  cases x with
  | http code kw nr =>
    dsimp only
    split <;> exact ⟨_, _, rfl⟩
  | conn => exact absurd rfl hc
  | sysExit => exact absurd rfl hs
  | httpResp _ | respErr | other _ | base => exact ⟨_, _, rfl⟩

variable {post : AfterProg} {ctor : Option Exc} {route : Route}

theorem respond_some : respond app p post ctor route = (t, some r) ↔
    ∃ t0 r0, preAfter app p ctor route = (t0, some r0) ∧
      (runAfter app p post 0 app.nAfter t0 r0).1 = t ∧ (runAfter app p post 0 app.nAfter t0 r0).2 = r := by
  unfold respond afterAll
  obtain ⟨t0, _ | r0⟩ := preAfter app p ctor route <;> simp [Prod.ext_iff, and_assoc]

theorem run_answered {a : Emitted} : run app p post ctor route = (t, .answered a) ↔
    ∃ r, respond app p post ctor route = (t, some r) ∧ emit app.reasons r = some a := by
  unfold run
  obtain ⟨t1, _ | r⟩ := respond app p post ctor route
  · simp
  · cases h : emit app.reasons r <;> simp [h, and_assoc]

end Equations

/-- what `respond_P` asks of `P`, `ValOK` and `ExcOK`: `P` holds of every response the framework builds itself
    and of whatever `to_response` and `HTTPException.make_response` make of admissible input, and what the
    framework itself hands on or raises is admissible -/
structure Closure (app : App) (P : Resp → Prop) (ValOK : Val → Prop) (ExcOK : Exc → Prop) : Prop where
  page : ∀ c, (c = 500 ∨ c = 501 ∨ app.builtinPages.contains c = true) → P (pageResp c)
  -- the two built-in answers of `stateFromTable` that are not a `pageResp c`: the Digest challenge and the 304
  page401 : P { pageResp 401 with headers := [("WWW-Authenticate".toList, "x".toList)] }
  notMod : P notModifiedResp
  coerced : ∀ v r, ValOK v → toResponse app.reasons v = .ok r → P r
  excMade : ∀ e r, ExcOK e → excMakeResponse e = some r → P r
  builtin : ∀ route, ValOK (builtinVal route)
  noneOK : ValOK .none
  -- what the framework raises itself: the 405 / 403 / 404 of `dispatch`, `ResponseError`, and `.other 5`, the class
  -- id (none of the user's) under which the model raises the `TypeError` of a built-in page called with `**kw` or
  -- of a tuple of more than four items, and the `RuntimeError` of a Digest 401 without realm
  framework : ExcOK (.http 405 false false) ∧ ExcOK (.http 403 false false) ∧ ExcOK (.http 404 false false)
    ∧ ExcOK .respErr ∧ ExcOK (.other 5)

/-- every callable of the program keeps to `ValOK` / `ExcOK` in what it returns or raises; `PostOK` says the same
    of the after hooks, which the model keeps apart from `Prog` -/
def ProgOK (ValOK : Val → Prop) (ExcOK : Exc → Prop) (p : Prog) : Prop :=
  ∀ s, match p s with
    | .ret v => ValOK v
    | .raise e => ExcOK e
    | .same => True

def PostOK (ValOK : Val → Prop) (ExcOK : Exc → Prop) (post : AfterProg) : Prop :=
  ∀ j, match post j with
    | .ret v => ValOK v
    | .raise e => ExcOK e
    | .same => True

/-- a step ends in a value satisfying `Q` or in an admissible exception; the trace plays no part -/
def Ends (E : Exc → Prop) (Q : α → Prop) (x : R α) : Prop :=
  match x.2 with
  | .ok a => Q a
  | .error e => E e

/-- the rule for the model's `match x with | (t, .ok a) => .. | (t, .error e) => ..` -/
@[elab_as_elim]
theorem Ends.elim {E : Exc → Prop} {Q : α → Prop} {motive : R α → Prop} {x : R α} (hx : Ends E Q x)
    (ok : ∀ t a, Q a → motive (t, .ok a)) (err : ∀ t e, E e → motive (t, .error e)) : motive x := by
  obtain ⟨t, e | a⟩ := x
  · exact err t e hx
  · exact ok t a hx

section
variable {app : App} {P : Resp → Prop} {ValOK : Val → Prop} {ExcOK : Exc → Prop}
variable (C : Closure app P ValOK ExcOK) {p : Prog} (hp : ProgOK ValOK ExcOK p)

include C in
theorem coerce_ends (t : Trace) (v : Val) (hv : ValOK v) : Ends ExcOK P (coerce app t v) := by
  unfold coerce
  split
  · exact C.coerced _ _ hv ‹_›
  · exact C.framework.2.2.2.1
  · exact C.framework.2.2.2.2

include C in
/-- `callT` and `callA` record different events and end in the same `match` over the behaviour `b` of the
    callable; `ProgOK` and `PostOK` both say of `b` what is assumed here.  Hence one statement about a bare `b`,
    with `callT_ends` and `callA_ends` as its instances. -/
theorem beh_ends (b : Beh) (t : Trace) :
    (match b with | .ret v => ValOK v | .raise e => ExcOK e | .same => True) →
    Ends ExcOK ValOK (t, match b with | .ret v => .ok v | .raise x => .error x | .same => .ok .none) := by
  cases b
  · exact id
  · exact id
  · exact fun _ => C.noneOK

include C hp in
theorem callT_ends (s : Site) (e : Ev) (t : Trace) : Ends ExcOK ValOK (callT p s e t) :=
  beh_ends C _ _ (hp s)

include C hp in
/-- what `state_from_table` hands on is a value of the program's, or a response `r` of the framework's own that
    satisfies `P` though `ValOK` need not hold of it.  Either way `coerce` then ends well: it hands `.resp r` on as
    `r`, by evaluation, so that a proof of `P r` is a proof of the claim about `coerce app t' (.resp r)`. -/
theorem stateFromTable_ends (code : Nat) (kw nr : Bool) (t : Trace) :
    Ends ExcOK (fun v => ∀ t', Ends ExcOK P (coerce app t' v)) (stateFromTable app p code kw nr t) := by
  have page c h t' : Ends ExcOK P (coerce app t' (.resp (pageResp c))) := C.page c h
  have p500 := page 500 (.inl rfl)
  have e5 : ExcOK (.other 5) := C.framework.2.2.2.2
  unfold stateFromTable
  refine iteInduction (fun _ => ?_) fun _ => iteInduction (fun hb => ?_) fun _ => page 501 (.inr (.inl rfl))
  · refine (callT_ends C hp _ _ t).elim (fun _ v hv t' => coerce_ends C t' v hv) fun t1 e he => ?_
    have made r (h : excMakeResponse e = some r) t' : Ends ExcOK P (coerce app t' (.resp r)) := C.excMade _ _ he h
    dsimp only
    split
    · split
      · exact made _ ‹_›
      · exact p500
    · split
      · exact made _ ‹_›
      · exact p500
    · exact iteInduction (fun _ => p500) fun _ => he
  · exact iteInduction (fun _ => e5) fun _ => iteInduction (fun _ => e5) fun _ => iteInduction (fun _ _ => C.notMod) fun _ =>
      iteInduction (fun _ _ => C.page401) fun _ => page code (.inr (.inr hb))

include C hp in
theorem fallback500_ends (t : Trace) : Ends ExcOK P (fallback500 app p t) := by
  unfold fallback500
  exact (stateFromTable_ends C hp ..).elim (fun t1 _ hv => hv t1) fun _ _ he => he

include C in
theorem guarded_P {x : R Resp} (hx : Ends ExcOK P x) : P (guarded x).2 :=
  hx.elim (fun _ _ h => h) fun _ _ _ => C.page 500 (.inl rfl)

include C hp in
theorem errorFromTable_ends (err : Exc) (t : Trace) :
    Ends ExcOK (·.elim True P) (errorFromTable app p err t) := by
  have p500 := C.page 500 (.inl rfl)
  unfold errorFromTable
  split
  · trivial
  · refine (callT_ends C hp _ _ t).elim (fun t1 v hv => ?_) fun t1 e he => ?_ <;> dsimp only
    · exact (coerce_ends C t1 v hv).elim (fun _ _ hr => hr) fun _ _ _ => p500
    · split
      · split
        · exact C.excMade _ _ he ‹_›
        · refine (stateFromTable_ends C hp ..).elim (fun t2 v hv => ?_) fun _ _ h => h
          dsimp only
          exact (hv t2).elim (fun _ _ hr => hr) fun _ _ h => h
      · exact C.excMade _ _ he rfl
      · exact iteInduction (fun _ => p500) fun _ => he

include C hp in
theorem errorResponse_P (err : Exc) (t : Trace) : P (errorResponse app p err t).2 := by
  refine guarded_P C ((errorFromTable_ends C hp err t).elim (fun t1 o ho => ?_) fun _ _ he => he)
  cases o with
  | some r => exact ho
  | none => exact fallback500_ends C hp t1

include C in
theorem callA_ends {post : AfterProg} (hpost : PostOK ValOK ExcOK post) (j : Nat) (t : Trace) :
    Ends ExcOK ValOK (callA post j t) :=
  beh_ends C _ _ (hpost j)

include C hp in
theorem runAfter_P (post : AfterProg) (hpost : PostOK ValOK ExcOK post) (j k : Nat) (t : Trace) (r : Resp)
    (hr : P r) : P (runAfter app p post j k t r).2 := by
  induction k generalizing j t r with
  | zero => exact hr
  | succ k ih =>
    unfold runAfter
    split
    · exact ih _ _ _ hr
    · refine (callA_ends C hpost j t).elim (fun t1 v hv => ?_) fun _ _ _ => errorResponse_P C hp _ _
      dsimp only
      exact (coerce_ends C t1 v hv).elim (fun _ _ => ih _ _ _) fun _ _ _ => errorResponse_P C hp _ _

include C hp in
theorem runBefore_ends (i k : Nat) (t : Trace) : Ends ExcOK (fun _ => True) (runBefore p i k t) := by
  induction k generalizing i t with
  | zero => trivial
  | succ k ih =>
    unfold runBefore
    exact (callT_ends C hp _ _ t).elim (fun _ _ _ => ih _ _) fun _ _ he => he

include C hp in
theorem dispatch_ends (route : Route) (t : Trace) : Ends ExcOK ValOK (dispatch app p route t) := by
  obtain ⟨f1, f2, f3, _⟩ := C.framework
  unfold dispatch
  refine (runBefore_ends C hp 0 _ t).elim (fun t1 () _ => ?_) fun _ _ he => he
  cases route
  case hit | default => exact callT_ends C hp ..
  case wrongMethod | forbidden | notFound => assumption
  all_goals exact C.builtin _

include C hp in
theorem phase1_ends (ctor : Option Exc) (hc : ∀ e, ctor = some e → ExcOK e) (route : Route) :
    Ends ExcOK P (phase1 app p ctor route) := by
  unfold phase1
  split
  · exact hc _ rfl
  · exact (dispatch_ends C hp route []).elim (fun t1 v hv => coerce_ends C t1 v hv) fun _ _ he => he

include C hp in
theorem ladder_P (t : Trace) (e : Exc) (he : ExcOK e) : (ladder app p t e).2.elim True P := by
  unfold ladder
  split
  · split
    · exact C.excMade _ _ he ‹_›
    · exact guarded_P C ((stateFromTable_ends C hp ..).elim (fun t1 _ hv => hv t1) fun _ _ h => h)
  · exact C.excMade _ _ he rfl
  · trivial
  · trivial
  · exact guarded_P C (fallback500_ends C hp t)
  · exact errorResponse_P C hp _ _

include C hp in
theorem preAfter_P (ctor : Option Exc) (hc : ∀ e, ctor = some e → ExcOK e) (route : Route) :
    (preAfter app p ctor route).2.elim True P := by
  unfold preAfter
  exact (phase1_ends C hp ctor hc route).elim (fun _ _ hr => hr) fun t e he => ladder_P C hp t e he

include C hp in
/-- **the generic ladder invariant**: the response that reaches emission satisfies `P` -/
theorem respond_P (post : AfterProg) (hpost : PostOK ValOK ExcOK post) (ctor : Option Exc)
    (hc : ∀ e, ctor = some e → ExcOK e) (route : Route)
    (t : Trace) (r : Resp) (h : respond app p post ctor route = (t, some r)) : P r := by
  obtain ⟨t0, r0, h0, rfl, rfl⟩ := respond_some.mp h
  have hpre := preAfter_P C hp ctor hc route
  rw [h0] at hpre
  exact runAfter_P C hp post hpost 0 app.nAfter t0 r0 hpre

end
end Poor.Wsgi
