import PoorProofs.Props.C04
import PoorProofs.Lemmas.Wsgi
import PoorProofs.Lemmas.Transcode
import PoorProofs.Lemmas.Scan
import PoorProofs.Lemmas.Digits
import PoorModel.Gen.Reasons
/-
C01 - every request gets exactly one well-formed WSGI answer.

The model's `run` is a total function into `answered (one start_response call) | silent`:
every exception path of `__request__` is consumed by an `except` clause of the model, as
it is in the (repaired) source; the correspondence run ties that structure to wsgi.py.
The theorems below add what the types do not give: well-formedness of what is emitted and
the exact reasons for a silent return.
-/
namespace Poor.Props.C01
open Poor Poor.Response Poor.Wsgi Poor.Headers

/-- applications as the framework builds them: reason table and built-in pages from the source -/
def Std (app : App) : Prop :=
  app.reasons = Gen.Reasons.table ∧ app.builtinPages = Gen.Reasons.builtinPages

/-- every built-in page status has a reason phrase; so have the statuses the framework sets itself -/
theorem pages_have_reasons :
    ∀ c ∈ (200 :: 204 :: 304 :: 500 :: 501 :: Gen.Reasons.builtinPages),
      knownStatus Gen.Reasons.table c = true := by decide +kernel

theorem reasons_wellformed :
    ∀ e ∈ Gen.Reasons.table, 100 ≤ e.1 ∧ e.1 ≤ 999 ∧ e.2 ≠ "" := by decide +kernel

def Latin1 (s : Str) : Prop := ∀ c ∈ s, c.toNat < 256
def GoodHs (h : Hs) : Prop := ∀ kv ∈ h, Latin1 kv.1 ∧ Latin1 kv.2

/-- a well-formed response object: a status its constructor accepts, latin-1 headers -/
def Good (r : Resp) : Prop := knownStatus Gen.Reasons.table r.status = true ∧ GoodHs r.headers

/-- `GoodVal` and `GoodExc` constrain the only places where a status or headers of the user's reach emission
    unchecked: a response object (returned, or carried by an abort) and the header item of the tuple form.  A
    status item is checked by `make_response` (`knownStatus`), a content type is transcoded on emission
    (`latin1_iso`), and every other value gets the framework's own status and headers. -/
def GoodVal : Val → Prop
  | .resp r => Good r
  | .tuple _ items => ∀ it ∈ items, match it with
      | .hdrs (.pairs h) => GoodHs h
      | _ => True
  | _ => True

def GoodExc : Exc → Prop
  | .httpResp r => Good r
  | _ => True

-- the headers the framework writes itself are constants: `decide` settles their well-formedness below (in
-- `good_xPoweredBy`, `closure_good`, `emit_good`), which is what these two instances are for
instance (s : Str) : Decidable (Latin1 s) := by unfold Latin1; infer_instance
instance (h : Hs) : Decidable (GoodHs h) := by unfold GoodHs; infer_instance

theorem good_xPoweredBy : GoodHs xPoweredBy := by decide +kernel

theorem goodHs_append {a b : Hs} (ha : GoodHs a) (hb : GoodHs b) : GoodHs (a ++ b) := by
  intro kv hkv
  rcases List.mem_append.mp hkv with h | h
  · exact ha kv h
  · exact hb kv h

theorem goodHs_single (k v : Str) (hk : Latin1 k) (hv : Latin1 v) : GoodHs [(k, v)] := by
  intro kv hkv
  simp only [List.mem_singleton] at hkv
  subst hkv; exact ⟨hk, hv⟩

theorem goodHs_ite {c : Bool} {a : Hs} {x : Str × Str} (ha : GoodHs a) (hx : GoodHs [x]) :
    GoodHs (if c = true then a ++ [x] else a) := by
  split
  · exact goodHs_append ha hx
  · exact ha

theorem latin1_iso (s : Str) : Latin1 (iso s) := by
  intro c hc
  simp only [iso, latin1dec, List.mem_map] at hc
  obtain ⟨b, _, rfl⟩ := hc
  rw [Headers.toNat_ofNat_small _ b.toNat_lt]
  exact b.toNat_lt

theorem latin1_natStr (n : Nat) : Latin1 (natStr n) := fun c hc =>
  Nat.lt_trans (HeaderValue.digit_ascii c (HeaderValue.isDigit_toString n c hc)) (by decide)

theorem good_made {d : Val} {ct : Option Str} {hd : HdrArg} {st : Nat} {r : Resp}
    (hh : ∀ hs, hd = .pairs hs → GoodHs hs)
    (h : makeResponse Gen.Reasons.table d ct hd st = some r) : Good r := by
  obtain ⟨hk, hi, _, hst⟩ := makeResponse_some h
  constructor
  · rcases hst with e | e <;> rw [e]
    · exact hk
    · exact pages_have_reasons 204 (by simp)
  · cases hd with
    | none => exact Option.some.inj hi ▸ good_xPoweredBy
    | pairs p => exact Option.some.inj hi ▸ hh p rfl
    | bad => cases hi

theorem closure_good (app : App) (hs : Std app) : Closure app Good GoodVal GoodExc where
  page := by
    intro c hc
    refine ⟨?_, good_xPoweredBy⟩
    rcases hc with rfl | rfl | hc
    · exact pages_have_reasons 500 (by simp)
    · exact pages_have_reasons 501 (by simp)
    · rw [hs.2] at hc
      exact pages_have_reasons c (by simp at hc; simp [hc])
  page401 := ⟨pages_have_reasons 401 (by decide), by decide +kernel⟩
  notMod := ⟨pages_have_reasons 304 (by simp), goodHs_append good_xPoweredBy (by decide)⟩
  coerced := by
    intro v r hv h
    rw [hs.1] at h
    obtain rfl | ⟨d, ct, hd, st, hm, hh⟩ := toResponse_ok h
    · exact hv
    · refine good_made (fun hs e => ?_) hm
      obtain ⟨_, _, rfl, hmem⟩ := hh hs e
      exact hv _ hmem
  excMade := by
    intro e r he h
    obtain rfl | ⟨_, _, _, rfl⟩ | ⟨_, _, _, rfl⟩ := excMakeResponse_some h
    · exact he
    · exact ⟨pages_have_reasons 200 (by simp), nofun⟩
    · exact ⟨pages_have_reasons 204 (by simp), good_xPoweredBy⟩
  builtin := by
    intro route
    cases route <;> simp only [builtinVal, GoodVal]
    · exact ⟨pages_have_reasons 200 (by simp), goodHs_append good_xPoweredBy (by decide +kernel)⟩
    · intro it hit
      simp only [List.mem_cons, List.mem_nil_iff, or_false] at hit
      rcases hit with rfl | rfl
      · trivial
      · exact (by decide +kernel : GoodHs [("Last-Modified".toList, "x".toList)])
  noneOK := trivial
  framework := ⟨trivial, trivial, trivial, trivial, trivial⟩

/-- every value the program hands back / every exception it raises carries well-formed responses -/
def GoodProg (p : Prog) : Prop := ProgOK GoodVal GoodExc p
def GoodPost (post : AfterProg) : Prop := PostOK GoodVal GoodExc post

theorem emit_good (r : Resp) (hr : Good r) (e : Emitted) (h : emit Gen.Reasons.table r = some e) :
    Gen.Reasons.table.lookup e.status = some e.reason ∧ GoodHs e.headers := by
  obtain ⟨hk, hh⟩ := hr
  have hreason : Gen.Reasons.table.lookup r.status = some ((Gen.Reasons.table.lookup r.status).getD "") := by
    obtain ⟨x, hx⟩ := Option.isSome_iff_exists.mp hk
    rw [hx]
    rfl
  unfold emit at h
  cases hc : r.cls <;> rw [hc] at h
  · dsimp only at h
    by_cases h3 : (r.status = 304 || r.status = 204) = true
    · rw [if_pos h3] at h; cases h; exact ⟨hreason, hh⟩
    · rw [if_neg h3] at h; cases h
      refine ⟨hreason, goodHs_ite (goodHs_ite hh ?_) ?_⟩
      · exact goodHs_single _ _ (by decide +kernel) (latin1_iso _)
      · exact goodHs_single _ _ (by decide +kernel) (latin1_natStr _)
  · cases h; exact ⟨hreason, hh⟩
  · cases h

/-- **well-formed answer.** For every configuration, every program whose response objects
    are well-formed, every construction outcome and every dispatch exit: if the server
    gets an answer, its status is in the reason table with exactly that reason phrase
    (a three-digit code and a non-empty reason) and every header name and value is latin-1. -/
theorem C01_wellformed (app : App) (hs : Std app) (p : Prog) (hp : GoodProg p)
    (post : AfterProg) (hpost : GoodPost post)
    (ctor : Option Exc) (hc : ∀ e, ctor = some e → GoodExc e) (route : Route)
    (t : Trace) (e : Emitted) (h : run app p post ctor route = (t, .answered e)) :
    Gen.Reasons.table.lookup e.status = some e.reason ∧
    100 ≤ e.status ∧ e.status ≤ 999 ∧ e.reason ≠ "" ∧ GoodHs e.headers := by
  obtain ⟨r, hr, he⟩ := run_answered.mp h
  rw [hs.1] at he
  obtain ⟨h1, h2⟩ := emit_good r (respond_P (closure_good app hs) hp post hpost ctor hc route t r hr) e he
  obtain ⟨a, b, c⟩ := reasons_wellformed (e.status, e.reason) (List.mem_of_lookup_eq_some h1)
  exact ⟨h1, a, b, c, h2⟩

def NotDeclined (r : Resp) : Prop := r.cls ≠ .declined

def QuietVal : Val → Prop
  | .resp r => NotDeclined r
  | _ => True

/-- the exception neither declines the request nor is a connection-level error -/
def QuietExc : Exc → Prop
  | .httpResp r => NotDeclined r
  | .http 0 _ _ => False
  | .conn | .sysExit => False
  | _ => True

theorem closure_quiet (app : App) : Closure app NotDeclined QuietVal QuietExc where
  page := fun _ _ => nofun
  page401 := nofun
  notMod := nofun
  coerced := by
    intro v r hv h
    obtain rfl | ⟨_, _, _, _, hm, _⟩ := toResponse_ok h
    · exact hv
    · exact (makeResponse_some hm).2.2.1
  excMade := by
    intro e r he h
    obtain rfl | ⟨_, _, rfl, _⟩ | ⟨_, _, _, rfl⟩ := excMakeResponse_some h
    · exact he
    · exact he.elim
    · nofun
  builtin := by
    intro route
    cases route
    case file => exact nofun
    all_goals exact trivial
  noneOK := trivial
  framework := ⟨trivial, trivial, trivial, trivial, trivial⟩

theorem emit_some (reasons : List (Nat × String)) (r : Resp) (h : NotDeclined r) :
    ∃ e, emit reasons r = some e := by
  unfold emit
  cases hc : r.cls
  · exact iteInduction (motive := fun x => ∃ e, x = some e) (fun _ => ⟨_, rfl⟩) fun _ => ⟨_, rfl⟩
  · exact ⟨_, rfl⟩
  · exact absurd hc h

/-- **silent only for the documented reasons.** If no callable declines the request
    (abort(0), a Declined response) and none raises a connection-level error
    (ConnectionError, SystemExit), and request construction does neither, then the server
    always receives an answer: `start_response` is called exactly once. -/
theorem C01_silent_reason (app : App) (p : Prog) (hp : ProgOK QuietVal QuietExc p)
    (post : AfterProg) (hpost : PostOK QuietVal QuietExc post)
    (ctor : Option Exc) (hc : ∀ e, ctor = some e → QuietExc e) (route : Route) :
    ∃ t e, run app p post ctor route = (t, .answered e) := by
  have C := closure_quiet app
  obtain ⟨t0, r0, h0⟩ : ∃ t r, preAfter app p ctor route = (t, some r) := by
    unfold preAfter
    -- `QuietExc` leaves no exception for which the ladder returns `()`
    exact (phase1_ends C hp ctor hc route).elim (fun _ _ _ => ⟨_, _, rfl⟩) fun t e he =>
      ladder_some (by rintro rfl; exact he) (by rintro rfl; exact he)
  have hr := (respond_some (post := post)).mpr ⟨t0, r0, h0, rfl, rfl⟩
  obtain ⟨e, he⟩ := emit_some app.reasons _ (respond_P C hp post hpost ctor hc route _ _ hr)
  exact ⟨_, e, run_answered.mpr ⟨_, hr, he⟩⟩

/-- the model's outcome space: one answer (exactly one `start_response` call) or silence -/
theorem C01_total (app : App) (p : Prog) (post : AfterProg) (ctor : Option Exc) (route : Route) :
    (∃ e, (run app p post ctor route).2 = .answered e) ∨ (run app p post ctor route).2 = .silent := by
  cases h : (run app p post ctor route).2 with
  | answered e => exact Or.inl ⟨e, rfl⟩
  | silent => exact Or.inr rfl

def C01_full : Prop :=
  (∀ app, Std app → ∀ p, GoodProg p → ∀ post, GoodPost post →
      ∀ ctor, (∀ e, ctor = some e → GoodExc e) → ∀ route t e,
      run app p post ctor route = (t, .answered e) →
      Gen.Reasons.table.lookup e.status = some e.reason ∧
      100 ≤ e.status ∧ e.status ≤ 999 ∧ e.reason ≠ "" ∧ GoodHs e.headers) ∧
  (∀ app p, ProgOK QuietVal QuietExc p → ∀ post, PostOK QuietVal QuietExc post →
      ∀ ctor, (∀ e, ctor = some e → QuietExc e) → ∀ route,
      ∃ t e, run app p post ctor route = (t, .answered e))

theorem C01 : C01_full := ⟨C01_wellformed, C01_silent_reason⟩

/-- the demo application is a standard one and the demo program obeys `GoodProg`; the request is answered -/
example : Std C04.demoApp := ⟨rfl, rfl⟩

example : GoodProg C04.demoProg := by
  intro s
  cases s with
  | before i => trivial
  | endpoint => trivial
  | status c => by_cases h : c = 404 <;> simp [C04.demoProg, h, GoodVal]
  | exch i => by_cases h : i = 0 <;> simp [C04.demoProg, h, GoodVal, GoodExc]

example : ∃ t e, run C04.demoApp C04.demoProg (fun _ => .same) none .hit = (t, .answered e) ∧ e.status = 200 := by
  refine ⟨_, _, rfl, ?_⟩
  decide

end Poor.Props.C01
