import PoorModel.Route
import PoorModel.Gen.Patterns
import PoorProofs.Lemmas.Regex
import PoorProofs.Props.C19
/-
C02 - requests reach exactly the endpoint the routing rules select
(and the dispatcher gate of C20).
-/
namespace Poor.Props.C02
open Poor Poor.Route Poor.Regex

/-- facts about the source the hand-written model relies on (regenerated every run):
    the rule anchor is `\Z` (a rule matches whole paths only - `$` would accept a trailing
    newline), and `re_filter` is the pattern `scanRule` was written for -/
theorem source_facts :
    Gen.Filters.anchors = ["\\Z"] ∧ Gen.Patterns.re_filter = "<(\\w+)(:[^>]+)?>" := by decide

/-- an exact static path registered for the method wins over everything else -/
theorem select_static_first (r : Reg) (env : Env) (bit : Nat) (path : Str) (inner : List (Nat × Nat)) (fn : Nat)
    (h1 : dget r.handlers path = some inner) (h2 : dget inner bit = some fn) :
    select r env bit path = .static fn := by
  simp [select, h1, h2]

/-- an exact static path registered only for other methods answers 405, whatever pattern
    routes, files or default handlers exist -/
theorem select_wrong_method (r : Reg) (env : Env) (bit : Nat) (path : Str) (inner : List (Nat × Nat))
    (h1 : dget r.handlers path = some inner) (h2 : dget inner bit = none) :
    select r env bit path = .wrongMethod := by
  simp [select, h1, h2]

/-- the entry does not serve this request: its pattern does not match, or it is not registered
    for the method -/
def Skips (bit : Nat) (path : Str) (e : Str × List (Nat × RH)) : Prop :=
  matchPat e.1 path = .ok none ∨ (∃ m, matchPat e.1 path = .ok (some m) ∧ dget e.2 bit = none)

/-- entries that do not serve the request are skipped, in order -/
theorem selectRegex_skips (bit : Nat) (path : Str) (pre rest : List (Str × List (Nat × RH)))
    (h : ∀ e ∈ pre, Skips bit path e) :
    selectRegex bit path (pre ++ rest) = selectRegex bit path rest := by
  induction pre with
  | nil => rfl
  | cons e t ih =>
    rw [← ih fun e he => h e (List.mem_cons_of_mem _ he)]
    obtain ⟨pat, inner⟩ := e
    rcases h _ List.mem_cons_self with h0 | ⟨⟨groups, names⟩, h1, h2⟩
    · simp only [List.cons_append, selectRegex, h0]
    · simp only [List.cons_append, selectRegex, h1, h2]

/-- **first pattern route in registration order** that matches the path and is registered
    for the method is the one selected -/
theorem selectRegex_first_match (bit : Nat) (path : Str) (pre post : List (Str × List (Nat × RH)))
    (pat : Str) (inner : List (Nat × RH)) (groups : List (Option Str)) (names : List (String × Nat)) (rh : RH)
    (hpre : ∀ e ∈ pre, Skips bit path e)
    (hm : matchPat pat path = .ok (some (groups, names))) (hb : dget inner bit = some rh) :
    ∃ args nm, selectRegex bit path (pre ++ (pat, inner) :: post)
      = .ok (some (.pattern rh.fn args nm (rh.rule.getD pat))) := by
  rw [selectRegex_skips bit path pre _ hpre]
  simp only [selectRegex, hm, hb]
  split <;> exact ⟨_, _, rfl⟩

/-- with converters (a rule written with `<name:filter>` groups) the handler receives, in the
    order of the rule's groups, the capture of each group *of that name* converted by its filter's
    converter - capturing groups inside a filter expression (`:float`, an inline `(a|b)+`) do not
    shift the arguments - and the same values by name on the request -/
theorem pattern_args_positional (bit : Nat) (path : Str) (post : List (Str × List (Nat × RH)))
    (pat : Str) (inner : List (Nat × RH)) (groups : List (Option Str)) (names : List (String × Nat)) (rh : RH)
    (hc : rh.convs ≠ [])
    (hm : matchPat pat path = .ok (some (groups, names))) (hb : dget inner bit = some rh) :
    selectRegex bit path ((pat, inner) :: post) =
      .ok (some (.pattern rh.fn (rh.convs.map fun cv => ⟨cv.2, groupByName names groups cv.1⟩)
                  (rh.convs.map (·.1)) (rh.rule.getD pat))) := by
  simp only [selectRegex, hm, hb, List.isEmpty_eq_false_iff.mpr hc, Bool.false_eq_true, if_false]

/-- after the tables: file or index under the document root (GET/HEAD only), the debug
    page, the per-method default handler, and finally 404 - in that order -/
theorem select_fallbacks (r : Reg) (env : Env) (bit : Nat) (path : Str)
    (h1 : dget r.handlers path = none) (h2 : selectRegex bit path r.rhandlers = .ok none) :
    select r env bit path =
      if env.docRoot && (bit &&& (Gen.State.METHOD_HEAD ||| Gen.State.METHOD_GET) != 0) then
        if !env.fsExists then
          if env.debug && path = "/debug-info".toList then .debugInfo else selectDefault r bit
        else if env.fsFile then .file
        else if env.index && env.fsDir then .dirIndex
        else .forbidden
      else if env.debug && path = "/debug-info".toList then .debugInfo
      else selectDefault r bit := by
  unfold select
  rw [h1]
  simp only [h2]

/-- a compiled rule is anchored at the end: it ends in `\Z` -/
theorem rule_anchored (fs : Filters) (uri pat : Str) (h : compileText fs uri = some pat) :
    ∃ body, pat = body ++ "\\Z".toList := by
  unfold compileText at h
  simp only [Option.map_eq_some_iff] at h
  obtain ⟨body, _, rfl⟩ := h
  exact ⟨body, rfl⟩

/-- an inline `:re:` expression is used exactly as written: no case folding, whatever it contains -/
theorem inline_re_verbatim (fs : Filters) (e : Str)
    (hno : fs.lookup (lower (":re:".toList ++ e)) = none) :
    filterRegex fs (some (":re:".toList ++ e)) = some e := by
  unfold filterRegex
  simp only [hno]
  -- the test looks at the first four characters only, and lower-casing leaves `:re:` as it is
  exact if_pos (rfl : (lower (":re:".toList ++ e)).take 4 = ":re:".toList)

/-- **C20 (dispatcher gate).** The debug page is reachable only when debug is effectively
    on; with debug off `/debug-info` is dispatched exactly like a path nobody registered -/
theorem C20_route (r : Reg) (env : Env) (bit : Nat) (path : Str) (hd : env.debug = false) :
    select r env bit path ≠ .debugInfo := by
  intro h
  have := C19.select_needs r env bit path
  rw [h, C19.Needs, hd] at this
  cases this

/-- **the matcher misses nothing**: every residual the expression's language allows is among the results of
    the backtracking matcher (sre's empty-iteration rule loses no match) - with `ms_sound`, matcher and language
    agree -/
theorem C02_matcher_complete (u : UTables) {r : Re} {s t : Str} (h : Lang u r s t) (st : Bool) (c : Caps)
    (hb : BolOK r st) : ∃ c', (t, c') ∈ ms u r st s c :=
  ms_complete u h st c hb

/-- **a rule matches exactly the paths of its language**: an expression anchored with `\\Z` (every compiled
    rule is, `rule_anchored`) matches a path iff the *whole* path belongs to the language of the rule -/
theorem C02_match_exact (u : UTables) (a : Re) (hb : BolOK a true) (path : Str) :
    (pyMatch u (.seq a .eos) path).isSome = true ↔ Lang u a path [] := by
  rw [pyMatch_iff u (.seq a .eos) ⟨hb, trivial⟩ path]
  exact ⟨fun ⟨_, ht⟩ => (seq_eos_full ht).2, fun h => ⟨[], .seq h (.eos rfl)⟩⟩

section Registrations
open Poor.Props.C19

/-- one registration of a pattern route (what `set_regular_route` / `set_route` with groups stores) -/
structure Registration where
  pat : Str
  fn : Nat
  mask : Nat
  convs : List (Str × Conv)
  rule : Option Str

def register (r : Reg) (g : Registration) : Reg := setRegular r g.pat g.fn g.mask g.convs g.rule

def regAll (r : Reg) (gs : List Registration) : Reg := gs.foldl register r

/-- patterns in the order of their first registration -/
def firstOcc (acc : List Str) (ks : List Str) : List Str :=
  ks.foldl (fun a k => if k ∈ a then a else a ++ [k]) acc

theorem register_keys (r : Reg) (g : Registration) :
    keys (register r g).rhandlers =
      if g.pat ∈ keys r.rhandlers then keys r.rhandlers else keys r.rhandlers ++ [g.pat] :=
  fanOut_keys ..

/-- **re-registration keeps the place**: registering a pattern that is already in the table (for
    further methods, or again) does not move it -/
theorem C02_reregister_keeps_place (r : Reg) (g : Registration) (h : g.pat ∈ keys r.rhandlers) :
    keys (register r g).rhandlers = keys r.rhandlers :=
  (register_keys r g).trans (if_pos h)

/-- a pattern registered for the first time goes to the end -/
theorem C02_new_pattern_last (r : Reg) (g : Registration) (h : g.pat ∉ keys r.rhandlers) :
    keys (register r g).rhandlers = keys r.rhandlers ++ [g.pat] :=
  (register_keys r g).trans (if_neg h)

/-- **registration order**: after any sequence of registrations the table lists the patterns in the
    order of their *first* registration -/
theorem C02_registration_order (r : Reg) (gs : List Registration) :
    keys (regAll r gs).rhandlers = firstOcc (keys r.rhandlers) (gs.map (·.pat)) := by
  rw [firstOcc, List.foldl_map]
  exact (List.foldl_hom (fun r : Reg => keys r.rhandlers) fun r g => (register_keys r g).symm).symm

/-- the handler stored for `(pattern, method)` is the one of the **latest** registration naming both -/
theorem C02_latest_registration (r : Reg) (gs : List Registration) (g : Registration) (p : Str) (b : Nat) :
    lookup2 (regAll r (gs ++ [g])).rhandlers p b =
      if p = g.pat ∧ b ∈ bitsOf g.mask then some ⟨g.fn, g.convs, g.rule⟩
      else lookup2 (regAll r gs).rhandlers p b := by
  simp only [regAll, List.foldl_append, List.foldl_cons, List.foldl_nil]
  generalize gs.foldl register r = r'
  simp only [register, setRegular]
  by_cases hp : p = g.pat
  · subst hp
    rw [fanOut_spec]
    by_cases hb : b ∈ bitsOf g.mask <;> simp [hb]
  · rw [fanOut_other_key hp]
    simp [hp]

theorem regAll_nodup (r : Reg) (gs : List Registration) (h : (keys r.rhandlers).Nodup) :
    (keys (regAll r gs).rhandlers).Nodup :=
  List.foldlRecOn gs register h fun _ h _ _ => fanOut_nodup _ _ _ _ h

/-- **selection in terms of registrations**: let the table be the result of any registration sequence
    on an empty table.  If `pat` is in it, every pattern placed before it (= first registered earlier)
    does not serve the request, `pat` matches the path and the latest registration of `pat` for the
    method stored `rh`, then the request is dispatched to `rh.fn`. -/
theorem C02_select_registered (gs : List Registration) (bit : Nat) (path : Str)
    (pre post : List (Str × List (Nat × RH))) (pat : Str) (inner : List (Nat × RH))
    (htab : (regAll {} gs).rhandlers = pre ++ (pat, inner) :: post)
    (groups : List (Option Str)) (names : List (String × Nat)) (rh : RH)
    (hpre : ∀ e ∈ pre, Skips bit path e)
    (hm : matchPat pat path = .ok (some (groups, names)))
    (hb : lookup2 (regAll {} gs).rhandlers pat bit = some rh) :
    ∃ args nm, selectRegex bit path (regAll {} gs).rhandlers
      = .ok (some (.pattern rh.fn args nm (rh.rule.getD pat))) := by
  have hnd := regAll_nodup {} gs List.nodup_nil
  rw [htab] at hnd hb ⊢
  rw [lookup2_at pre post pat inner bit hnd] at hb
  exact selectRegex_first_match bit path pre post pat inner groups names rh hpre hm hb

/-- non-vacuity: `/a` for GET, `/b` for GET, then `/a` again for POST - `/a` keeps the first place and
    now answers both methods -/
example :
    keys (regAll {} [⟨"/a".toList, 1, 2, [], none⟩, ⟨"/b".toList, 2, 2, [], none⟩, ⟨"/a".toList, 3, 4, [], none⟩]).rhandlers
      = ["/a".toList, "/b".toList] := by decide

example :
    lookup2 (regAll {} [⟨"/a".toList, 1, 2, [], none⟩, ⟨"/b".toList, 2, 2, [], none⟩, ⟨"/a".toList, 3, 4, [], none⟩]).rhandlers
      "/a".toList 4 = some ⟨3, [], none⟩ := by decide

end Registrations

end Poor.Props.C02
