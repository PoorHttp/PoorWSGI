import PoorProofs.Lemmas.Wsgi
import PoorProofs.Props.C04
/-
C03 - before/after hooks run once, in order, around every dispatched request.
-/
namespace Poor.Props.C03
open Poor Poor.Response Poor.Wsgi

/-- the before hook `i` passes (returns normally; its return value is ignored) -/
def Passes (p : Prog) (i : Nat) : Prop := ∀ e, p (.before i) ≠ .raise e

def befores (i k : Nat) : Trace := (List.range' i k).map Ev.before

theorem callT_pass (p : Prog) (i : Nat) (t : Trace) (h : Passes p i) :
    ∃ v, callT p (.before i) (.before i) t = (t ++ [.before i], .ok v) := by
  unfold callT
  cases hp : p (.before i) with
  | ret v => exact ⟨v, rfl⟩
  | raise e => exact absurd hp (h e)
  | same => exact ⟨.none, rfl⟩

theorem runBefore_pass (p : Prog) (i m k : Nat) (t : Trace) (h : ∀ j, j < m → Passes p (i + j)) :
    runBefore p i (m + k) t = runBefore p (i + m) k (t ++ befores i m) := by
  induction m generalizing i t with
  | zero => simp [befores]
  | succ m ih =>
    obtain ⟨v, hv⟩ := callT_pass p i t (h 0 (Nat.succ_pos m))
    rw [Nat.add_right_comm, runBefore, hv]
    dsimp only
    rw [ih (i + 1) _ fun j hj => Nat.add_right_comm i 1 j ▸ h (j + 1) (Nat.succ_lt_succ hj)]
    simp [befores, List.range'_succ, Nat.add_assoc, Nat.add_comm 1]

/-- all `k` hooks from `i` on pass: each runs exactly once, in registration order -/
theorem runBefore_all (p : Prog) (i k : Nat) (t : Trace) (h : ∀ j, j < k → Passes p (i + j)) :
    runBefore p i k t = (t ++ befores i k, .ok ()) :=
  runBefore_pass p i k 0 t h

/-- the hook at offset `m` is the first to stop the request: hooks `i..i+m` ran once each,
    in order, and **no later before hook runs** -/
theorem runBefore_stop (p : Prog) (i k m : Nat) (t : Trace) (hm : m < k)
    (hpass : ∀ j, j < m → Passes p (i + j)) (e : Exc) (hraise : p (.before (i + m)) = .raise e) :
    runBefore p i k t = (t ++ befores i (m + 1), .error e) := by
  obtain ⟨k', rfl⟩ := Nat.exists_eq_add_of_lt hm
  rw [Nat.add_assoc, runBefore_pass p i m _ t hpass, runBefore, callT_raise hraise]
  simp [befores, List.range'_concat, R.err]

/-- **every dispatch exit** runs all before hooks first - also the 404 / 405 / 403 exits and
    the file, directory and debug pages - and only then the endpoint (or the built-in action) -/
theorem dispatch_order (app : App) (p : Prog) (route : Route)
    (h : ∀ j, j < app.nBefore → Passes p j) :
    ∃ rest res, dispatch app p route [] = (befores 0 app.nBefore ++ rest, res) ∧
      (rest = [.endpoint] ∨ rest = [] ∨ rest = [.builtinDispatch route]) ∧
      ((route = .hit ∨ route = .default) → rest = [.endpoint]) := by
  have hb := runBefore_all p 0 app.nBefore [] (by simpa using h)
  unfold dispatch
  rw [hb]
  cases route
  case hit | default => exact ⟨[.endpoint], _, rfl, .inl rfl, fun _ => rfl⟩
  case wrongMethod | forbidden | notFound => exact ⟨[], _, by rw [List.append_nil]; rfl, .inr (.inl rfl), nofun⟩
  all_goals exact ⟨[.builtinDispatch _], _, rfl, .inr (.inr rfl), nofun⟩

/-- if a before hook stops the request, no later before hook and **no endpoint** runs -/
theorem dispatch_stopped (app : App) (p : Prog) (route : Route) (m : Nat) (hm : m < app.nBefore)
    (hpass : ∀ j, j < m → Passes p j) (e : Exc) (hraise : p (.before m) = .raise e) :
    dispatch app p route [] = (befores 0 (m + 1), .error e) := by
  have hb := runBefore_stop p 0 app.nBefore m [] hm (by simpa using hpass) e (by simpa using hraise)
  unfold dispatch
  rw [hb]
  rfl

def afters (j k : Nat) : Trace := (List.range' j k).map Ev.after

/-- after hooks that hand the response on: each runs exactly once, in order, and the client
    receives the response unchanged -/
theorem runAfter_same (app : App) (p : Prog) (post : AfterProg) (j k : Nat) (t : Trace) (r : Resp)
    (h : ∀ i, i < k → post (j + i) = .same) :
    runAfter app p post j k t r = (t ++ afters j k, r) := by
  induction k generalizing j t with
  | zero => simp [runAfter, afters]
  | succ k ih =>
    unfold runAfter
    rw [show post j = .same from h 0 (Nat.succ_pos k)]
    dsimp only
    rw [ih (j + 1) _ fun i hi => Nat.add_right_comm j 1 i ▸ h (i + 1) (Nat.succ_lt_succ hi)]
    simp [afters, List.range'_succ]

/-- an after hook that replaces the response: the next hook (and finally the client)
    receives what it returned -/
theorem runAfter_replace (app : App) (p : Prog) (post : AfterProg) (j k : Nat) (t : Trace) (r : Resp)
    (v : Val) (hv : post j = .ret v) (r' : Resp) (hr : toResponse app.reasons v = .ok r') :
    runAfter app p post j (k + 1) t r = runAfter app p post (j + 1) k (t ++ [Ev.after j]) r' := by
  conv => lhs; unfold runAfter
  simp [hv, callA, coerce_ok hr, R.ok]

/-- an after hook that fails (raises, or returns something that is no response): the
    remaining hooks are skipped and the client receives an error response -/
theorem runAfter_fail (app : App) (p : Prog) (post : AfterProg) (j k : Nat) (t : Trace) (r : Resp)
    (e : Exc) (he : post j = .raise e) :
    runAfter app p post j (k + 1) t r = errorResponse app p e (t ++ [Ev.after j]) := by
  conv => lhs; unfold runAfter
  simp [he, callA]

theorem runAfter_garbage (app : App) (p : Prog) (post : AfterProg) (j k : Nat) (t : Trace) (r : Resp)
    (hv : post j = .ret .junk) :
    runAfter app p post j (k + 1) t r = errorResponse app p .respErr (t ++ [Ev.after j]) := by
  conv => lhs; unfold runAfter
  simp [hv, callA, coerce_respErr (toResponse_junk _), R.err]

/-- the after-hook loop runs on whatever response the request produced - success, HTTP
    error or crash - and on nothing else -/
theorem after_on_every_response (app : App) (p : Prog) (post : AfterProg) (ctor : Option Exc)
    (route : Route) :
    respond app p post ctor route =
      match preAfter app p ctor route with
      | (t, none) => (t, none)
      | (t, some r) => ((runAfter app p post 0 app.nAfter t r).1, some (runAfter app p post 0 app.nAfter t r).2) :=
  rfl

/-- both before hooks of the demo pass, so `dispatch_order` applies: they run in order, then the endpoint -/
example : ∀ j, j < C04.demoApp.nBefore → Passes C04.demoProg j := by
  intro j _ e h
  simp [C04.demoProg] at h

example : (dispatch C04.demoApp C04.demoProg .hit []).1 = [.before 0, .before 1, .endpoint] := by decide

end Poor.Props.C03
