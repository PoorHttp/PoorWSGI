import PoorProofs.Lemmas.Wsgi
import PoorModel.Gen.Reasons
/-
C04 - aborts and exceptions become the documented HTTP answers.

All statements are about `ladder app p t e`: what the exception clauses of `__request__`
make of the first exception `e` that left construction / before hooks / the endpoint
(`preAfter` is `ladder` applied to that exception, and the after-hook loop only starts
from its result - see `C04_after_independent`).
-/
namespace Poor.Props.C04
open Poor Poor.Response Poor.Wsgi

variable (app : App) (p : Prog) (t : Trace)

/-- abort(s) with a status handler registered for (s, method): that handler runs and its
    return value is interpreted exactly like an endpoint return value -/
theorem abort_user_handler (s : Nat) (kw nr : Bool) (hs0 : s ≠ 0) (hs200 : s ≠ 200)
    (hu : s ∈ app.userStatus) (v : Val) (hv : p (.status s) = .ret v)
    (r : Resp) (hr : toResponse app.reasons v = .ok r) :
    ladder app p t (.http s kw nr) = (t ++ [.status s], some r) :=
  ladder_http_ok hs0 hs200 (stateFromTable_ret hu hv) hr

/-- ... else the built-in page for s -/
theorem abort_builtin_page (s : Nat) (nr : Bool) (hs0 : s ≠ 0) (hs200 : s ≠ 200)
    (hu : s ∉ app.userStatus) (hb : s ∈ app.builtinPages)
    (h304 : s ≠ 304) (h401 : ¬(s = 401 ∧ app.digestAuth = true)) :
    ladder app p t (.http s false nr) = (t ++ [.page s], some (pageResp s)) :=
  ladder_http_ok hs0 hs200 (stateFromTable_builtin hu hb h304 h401) rfl

/-- ... else a 501 page -/
theorem abort_not_implemented (s : Nat) (kw nr : Bool) (hs0 : s ≠ 0) (hs200 : s ≠ 200)
    (hu : s ∉ app.userStatus) (hb : s ∉ app.builtinPages) :
    ladder app p t (.http s kw nr) = (t ++ [.page 501], some (pageResp 501)) :=
  ladder_http_ok hs0 hs200 (stateFromTable_501 hu hb) rfl

/-- an abort carrying a response object delivers exactly that response -/
theorem abort_with_response (r : Resp) : ladder app p t (.httpResp r) = (t, some r) := rfl

/-- the two documented special codes: 0 declines the request, 200 is an empty 204 -/
theorem abort_special (kw nr : Bool) :
    ladder app p t (.http 0 kw nr) = (t, some ⟨.declined, 200, [], [], [], 0⟩) ∧
    ladder app p t (.http 200 kw nr) = (t, some ⟨.noContent, 204, xPoweredBy, [], [], 0⟩) :=
  ⟨rfl, rfl⟩

/-- `findExcHandler` is the first registered handler, in registration order, whose class matches -/
theorem first_matching_handler (c i : Nat) (h : findExcHandler app (.other c) = some i) :
    (∃ cls, app.excHandlers[i]? = some cls ∧ isInstance c cls = true) ∧
    ∀ j, j < i → ∀ cls, app.excHandlers[j]? = some cls → isInstance c cls = false := by
  simp only [findExcHandler, Exc.classId] at h
  obtain ⟨hi, _, hrej⟩ := List.find?_range_eq_some.mp h
  constructor
  · split at hi
    · exact ⟨_, ‹_›, hi⟩
    · cases hi
  · intro j hj cls hcls
    simpa [hcls] using hrej j hj

/-- any other exception goes to that handler; its return value is coerced like an endpoint's -/
theorem exception_user_handler (c i : Nat) (hf : findExcHandler app (.other c) = some i)
    (v : Val) (hv : p (.exch i) = .ret v) (r : Resp) (hr : toResponse app.reasons v = .ok r) :
    ladder app p t (.other c) = (t ++ [.exch i], some r) :=
  ladder_other (errorResponse_some (errorFromTable_ret hf hv hr))

/-- ... and otherwise yields 500 (the user's 500 handler if registered, else the built-in page) -/
theorem exception_unhandled (c : Nat) (hf : findExcHandler app (.other c) = none)
    (hu : 500 ∉ app.userStatus) (hb : 500 ∈ app.builtinPages) :
    ladder app p t (.other c) = (t ++ [.page 500], some (pageResp 500)) := by
  apply ladder_other
  rw [errorResponse_none (errorFromTable_none hf),
    fallback500_eq (stateFromTable_builtin hu hb (by decide) (fun h => absurd h.1 (by decide))), coerce_ok rfl]
  rfl

/-- a failure inside a status handler degrades to a 500 page -/
theorem status_handler_failure (s : Nat) (kw nr : Bool) (hs0 : s ≠ 0) (hs200 : s ≠ 200)
    (hu : s ∈ app.userStatus) (x : Exc) (hx : x.isException = true)
    (hnot : ∀ a b c, x ≠ .http a b c) (hnot2 : ∀ r, x ≠ .httpResp r)
    (hv : p (.status s) = .raise x) :
    ladder app p t (.http s kw nr) = (t ++ [.status s, .page 500], some (pageResp 500)) := by
  have hm : excMakeResponse x = none := by
    cases x with
    | http a b c => exact absurd rfl (hnot a b c)
    | httpResp r => exact absurd rfl (hnot2 r)
    | _ => rfl
  exact ladder_http_ok hs0 hs200 (stateFromTable_raise_500 hu hv hm hx) rfl

/-- ... and so does a status handler that returns garbage -/
theorem status_handler_garbage (s : Nat) (kw nr : Bool) (hs0 : s ≠ 0) (hs200 : s ≠ 200)
    (hu : s ∈ app.userStatus) (hv : p (.status s) = .ret .junk) :
    ladder app p t (.http s kw nr) = (t ++ [.status s, .page 500], some (pageResp 500)) := by
  simpa using ladder_http_respErr hs0 hs200 (stateFromTable_ret hu hv) (toResponse_junk _)

/-- a status handler that aborts with an ordinary status: no second table lookup - the 500 page -/
theorem status_handler_aborts (s : Nat) (kw nr : Bool) (hs0 : s ≠ 0) (hs200 : s ≠ 200)
    (hu : s ∈ app.userStatus) (s' : Nat) (kw' nr' : Bool) (h0 : s' ≠ 0) (h200 : s' ≠ 200)
    (hv : p (.status s) = .raise (.http s' kw' nr')) :
    ladder app p t (.http s kw nr) = (t ++ [.status s, .page 500], some (pageResp 500)) :=
  ladder_http_ok hs0 hs200
    (stateFromTable_raise_500 hu hv (excMakeResponse_http h0 h200) rfl) rfl

/-- ... but the special codes and an abort carrying a response keep their meaning there (the model states
    the current behaviour; the property text does not say which of the two readings is meant) -/
theorem status_handler_aborts_special (s : Nat) (kw nr : Bool) (hs0 : s ≠ 0) (hs200 : s ≠ 200)
    (hu : s ∈ app.userStatus) (e : Exc) (r : Resp) (he' : excMakeResponse e = some r)
    (hv : p (.status s) = .raise e) :
    ladder app p t (.http s kw nr) = (t ++ [.status s], some r) :=
  ladder_http_ok hs0 hs200 (stateFromTable_raise_made hu hv he') rfl

/-- the exception handler itself failing (an Exception): 500 page -/
theorem exception_handler_failure (c i : Nat) (hf : findExcHandler app (.other c) = some i)
    (c' : Nat) (hv : p (.exch i) = .raise (.other c')) :
    ladder app p t (.other c) = (t ++ [.exch i, .page 500], some (pageResp 500)) :=
  ladder_other (errorResponse_some (errorFromTable_raise hf hv))

/-- **the conversion does not depend on the after hooks**: what the after-hook loop starts
    from is computed without the after programs, and does not change with their number -/
theorem C04_after_independent (post : AfterProg) (ctor : Option Exc) (route : Route) (k : Nat) :
    (respond app p post ctor route =
      match preAfter app p ctor route with
      | (t, none) => (t, none)
      | (t, some r) => afterAll app p post t r) ∧
    preAfter { app with nAfter := k } p ctor route = preAfter app p ctor route :=
  ⟨rfl, rfl⟩

/-- a small application and a failing user program, to show that the hypotheses of the theorems of C01,
    C03 and C04 are satisfiable together: two before hooks, one after hook, user handlers for 404 and 500,
    exception handlers for class 0 and for `Exception`; the endpoint aborts with 404, the 404 handler
    answers with text, the first exception handler itself fails -/
def demoApp : App :=
  ⟨2, 1, [404, 500], [0, 9], Gen.Reasons.builtinPages, false, Gen.Reasons.table⟩

def demoProg : Prog
  | .endpoint => .raise (.http 404 false false)
  | .status c => if c = 404 then .ret (.str [104, 105]) else .ret .junk
  | .exch i => if i = 0 then .raise (.other 2) else .ret .none
  | .before _ => .ret .none

example : 404 ∈ demoApp.userStatus ∧ demoProg (.status 404) = .ret (.str [104, 105]) := ⟨by decide, rfl⟩

/-- `abort_user_handler` applies to it, and its conclusion is what the model computes -/
example : ∃ r, toResponse demoApp.reasons (.str [104, 105]) = .ok r ∧
    ladder demoApp demoProg [] (.http 404 false false) = ([.status 404], some r) :=
  ⟨_, rfl, abort_user_handler demoApp demoProg [] 404 false false (by decide) (by decide) (by decide) _ rfl _ rfl⟩

/-- `status_handler_garbage`: the 500 handler returns junk -/
example : 500 ∈ demoApp.userStatus ∧ demoProg (.status 500) = .ret .junk := ⟨by decide, rfl⟩

/-- `first_matching_handler` / `exception_handler_failure`: class 1 (derived from 0) finds handler 0, which fails -/
example : findExcHandler demoApp (.other 1) = some 0 ∧ demoProg (.exch 0) = .raise (.other 2) := ⟨by decide, rfl⟩

/-- `abort_not_implemented`: 418 has neither a user handler nor a built-in page -/
example : 418 ∉ demoApp.userStatus ∧ 418 ∉ demoApp.builtinPages := ⟨by decide, by decide⟩

end Poor.Props.C04
