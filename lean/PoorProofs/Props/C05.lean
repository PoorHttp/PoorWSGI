import PoorProofs.Lemmas.Wsgi
import PoorModel.Gen.Reasons
import PoorProofs.Props.JsonCodec
/-
C05 - what a handler returns is what the client receives.
-/
namespace Poor.Props.C05
open Poor Poor.Response Poor.Headers

variable (reasons : List (Nat × String))

/-- the headers the framework may add on its own -/
def autoCT (r : Resp) : Hs :=
  if !r.ctype.isEmpty && !contains r.headers "Content-Type".toList
  then [("Content-Type".toList, iso r.ctype)] else []

def autoCL (r : Resp) : Hs :=
  if r.clen ≠ 0 && !contains (r.headers ++ autoCT r) "Content-Length".toList
  then [("Content-Length".toList, natStr r.clen)] else []

theorem emit_base (r : Resp) (hc : r.cls = .base) (h1 : r.status ≠ 304) (h2 : r.status ≠ 204) :
    emit reasons r =
      some ⟨r.status, (reasons.lookup r.status).getD "", r.headers ++ autoCT r ++ autoCL r, r.body.flatten⟩ := by
  have happ : ∀ (c : Bool) (l x : Hs), (if c then l ++ x else l) = l ++ if c then x else [] := by
    intro c l x; cases c <;> simp
  simp only [emit, hc, h1, h2, decide_false, Bool.or_false, Bool.false_eq_true, if_false, happ]
  rfl

theorem emit_bare (r : Resp) (hd : r.cls ≠ .declined) (hb : ¬(r.cls = .base ∧ r.status ≠ 304 ∧ r.status ≠ 204)) :
    emit reasons r = some ⟨r.status, (reasons.lookup r.status).getD "", r.headers, []⟩ := by
  cases hc : r.cls with
  | declined => exact absurd hc hd
  | noContent => simp [emit, hc]
  | base =>
    have : r.status = 304 ∨ r.status = 204 :=
      Decidable.byContradiction fun hn => hb ⟨hc, fun h => hn (.inl h), fun h => hn (.inr h)⟩
    simp [emit, hc, this]

/-- **headers.** Whatever response object reaches emission - of any class, with any
    headers incl. repeated Set-Cookie - every header on it appears unchanged and in order
    in what the server receives; the framework appends Content-Type / Content-Length only
    when that header is absent, and never for the no-content family or a 304. -/
theorem C05_headers (r : Resp) (e : Emitted) (h : emit reasons r = some e) :
    e.status = r.status ∧
    ((r.cls = .noContent ∨ r.status = 304 ∨ r.status = 204) → e.headers = r.headers ∧ e.body = []) ∧
    (r.cls = .base → r.status ≠ 304 → r.status ≠ 204 →
        e.headers = r.headers ++ autoCT r ++ autoCL r ∧ e.body = r.body.flatten) := by
  by_cases hb : r.cls = .base ∧ r.status ≠ 304 ∧ r.status ≠ 204
  · rw [emit_base reasons r hb.1 hb.2.1 hb.2.2] at h
    cases h
    exact ⟨rfl, fun hn => by simp [hb.1, hb.2.1, hb.2.2] at hn, fun _ _ _ => ⟨rfl, rfl⟩⟩
  · rw [emit_bare reasons r (fun hd => by simp [emit, hd] at h) hb] at h
    cases h
    exact ⟨rfl, fun _ => ⟨rfl, rfl⟩, fun h0 h1 h2 => absurd ⟨h0, h1, h2⟩ hb⟩

theorem ks200 : knownStatus Gen.Reasons.table 200 = true := by decide

/-- text is delivered as its UTF-8 bytes, bytes verbatim -/
theorem C05_str_bytes (b : Bytes) (v : Val) (hv : v = .str b ∨ v = .bytes b) (h200 : knownStatus reasons 200 = true) :
    toResponse reasons v = .ok ⟨.base, 200, xPoweredBy, htmlType, [b], b.length⟩ := by
  rcases hv with rfl | rfl <;> simp [toResponse, makeResponse, h200, initHeaders]

/-- dict / list (empty ones included): the JSON text under a JSON content type -/
theorem C05_json (d : Bytes) (h200 : knownStatus reasons 200 = true) :
    toResponse reasons (.json d) = .ok ⟨.base, 200, xPoweredBy, jsonType, [d], d.length⟩ := by
  simp [toResponse, makeResponse, h200, initHeaders]

/-- None: 204 and no body -/
theorem C05_none (h200 : knownStatus reasons 200 = true) :
    toResponse reasons .none = .ok ⟨.noContent, 204, xPoweredBy, [], [], 0⟩ := by
  simp [toResponse, makeResponse, h200, initHeaders]

/-- an iterable of bytes: its chunks in order -/
theorem C05_iter (cs : List Bytes) (v : Val) (hv : v = .iter cs ∨ v = .listBytes cs) (h200 : knownStatus reasons 200 = true) :
    toResponse reasons v = .ok ⟨.base, 200, xPoweredBy, htmlType, cs, 0⟩ := by
  rcases hv with rfl | rfl <;> simp [toResponse, makeResponse, h200, initHeaders]

/-- any other value: ResponseError (turned into 500 by the request ladder, see C04) -/
theorem C05_junk : toResponse reasons .junk = .respErr :=
  Wsgi.toResponse_junk reasons

/-- the tuple form sets exactly body, content type, headers and status -/
theorem C05_tuple (b : Bytes) (ct : Str) (h : Hs) (st : Nat) (hst : knownStatus reasons st = true) :
    toResponse reasons (.tuple (.str b) [.ctype ct, .hdrs (.pairs h), .status st])
      = .ok ⟨.base, st, h, ct, [b], b.length⟩ ∧
    toResponse reasons (.tuple .none [.ctype ct, .hdrs (.pairs h), .status st])
      = .ok ⟨.noContent, if st = 200 then 204 else st, h, [], [], 0⟩ := by
  simp [toResponse, makeResponse, hst, initHeaders]

/-- a response object is handed on untouched -/
theorem C05_resp (r : Resp) : toResponse reasons (.resp r) = .ok r := rfl

def C05_full : Prop :=
  let reasons := Gen.Reasons.table
  (∀ r e, emit reasons r = some e →
    e.status = r.status ∧
    ((r.cls = .noContent ∨ r.status = 304 ∨ r.status = 204) → e.headers = r.headers ∧ e.body = []) ∧
    (r.cls = .base → r.status ≠ 304 → r.status ≠ 204 →
        e.headers = r.headers ++ autoCT r ++ autoCL r ∧ e.body = r.body.flatten)) ∧
  (∀ b, toResponse reasons (.str b) = .ok ⟨.base, 200, xPoweredBy, htmlType, [b], b.length⟩) ∧
  (∀ b, toResponse reasons (.bytes b) = .ok ⟨.base, 200, xPoweredBy, htmlType, [b], b.length⟩) ∧
  (∀ d, toResponse reasons (.json d) = .ok ⟨.base, 200, xPoweredBy, jsonType, [d], d.length⟩) ∧
  (toResponse reasons .none = .ok ⟨.noContent, 204, xPoweredBy, [], [], 0⟩) ∧
  (∀ cs, toResponse reasons (.iter cs) = .ok ⟨.base, 200, xPoweredBy, htmlType, cs, 0⟩) ∧
  (toResponse reasons .junk = .respErr) ∧
  (∀ r, toResponse reasons (.resp r) = .ok r)

theorem C05 : C05_full :=
  ⟨C05_headers _, fun b => C05_str_bytes _ b _ (Or.inl rfl) ks200, fun b => C05_str_bytes _ b _ (Or.inr rfl) ks200,
   fun d => C05_json _ d ks200, C05_none _ ks200, fun cs => C05_iter _ cs _ (Or.inl rfl) ks200, C05_junk _,
   C05_resp _⟩

/-- **a dict or list is delivered as JSON that decodes to an equal value.**  For every well-formed value `v`
    (any nesting and size, `{}` and `[]` included, strings with control characters, non-BMP characters and lone
    surrogates) the handler's value becomes a 200 answer of JSON type whose body is the UTF-8 encoding of
    `json.dumps(v)`, with the matching length; that body is pure ASCII, and decoding and parsing it gives `v`. -/
theorem C05_json_value (v : Poor.Json.J) (h : Poor.Json.JOk v) :
    toResponse Gen.Reasons.table (.json (Poor.Json.dumpBytes v))
      = .ok ⟨.base, 200, xPoweredBy, jsonType, [Poor.Json.dumpBytes v], (Poor.Json.dumpBytes v).length⟩ ∧
    Poor.Json.loadBytes (Poor.Json.dumpBytes v) = some v ∧
    (∀ c ∈ Poor.Json.dump v, c.toNat < 128) :=
  ⟨C05_json _ _ ks200, JsonCodec.loadBytes_dumpBytes v h, JsonCodec.dumpBytes_ascii v⟩

/-- non-vacuity of `C05_headers`: a 304 carrying an ETag is emitted with exactly its headers and no body,
    a 200 with a body gets Content-Type and Content-Length added -/
example : emit Gen.Reasons.table ⟨.base, 304, [("ETag".toList, "x".toList)], "text/html".toList, [[1, 2]], 2⟩
    = some ⟨304, "Not Modified", [("ETag".toList, "x".toList)], []⟩ :=
  emit_bare _ _ (by decide) (by decide)

example : (emit Gen.Reasons.table ⟨.base, 200, [], "a/b".toList, [[1], [2, 3]], 3⟩).map (·.body) = some [1, 2, 3] := by
  decide

end Poor.Props.C05
