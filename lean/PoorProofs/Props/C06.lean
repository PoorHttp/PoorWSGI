import PoorProofs.Props.C07
/-
C06 - Content-Length always equals the bytes actually sent.
-/
namespace Poor.Props.C06
open Poor Poor.Range Poor.Props.C07

/-- after any history of writes the advertised length is the buffer length -/
theorem C06_write_history (init : Bytes) (ws : List Bytes) :
    (ws.foldl Buf.write (Buf.init init)).contentLength
      = (ws.foldl Buf.write (Buf.init init)).data.length ∧
    (ws.foldl Buf.write (Buf.init init)).data = init ++ ws.flatten := by
  suffices h : ∀ b : Buf, b.contentLength = b.data.length →
      (ws.foldl Buf.write b).contentLength = (ws.foldl Buf.write b).data.length ∧
      (ws.foldl Buf.write b).data = b.data ++ ws.flatten by
    exact h (Buf.init init) rfl
  induction ws with
  | nil => intro b hb; simp [hb]
  | cons w ws ih =>
    intro b hb
    have := ih (b.write w) (by simp [Buf.write, hb])
    simpa [Buf.write, List.append_assoc] using this

theorem window_part_bounds {full : Nat} {rs : List RangeT} {f l : Nat}
    (h : window full rs = .part f l) : f ≤ l ∧ l < full :=
  window_part h

/-- **C06 (emitted length).** For every known-length representation and *every* range
    list (valid, invalid, several, none): an emitted Content-Length is exactly the number
    of body bytes, and it is emitted whenever that number is positive. -/
theorem C06_emitted (rep : Rep) (hk : KnownLength rep) (rs : List RangeT) (o : Out)
    (h : respond rep rs = some o) :
    (∀ n, o.contentLength = some n → n = o.body.length) ∧
    (0 < o.body.length → o.contentLength = some o.body.length) := by
  unfold respond at h
  simp only at h
  have hl := length_eq rep hk
  split at h
  · cases h
  · simp only [Option.some.injEq] at h; subst h
    simp only [body_full rep hk, ← hl]
    constructor
    · intro n hn; split at hn <;> simp_all
    · intro hp; split <;> simp_all
  · rename_i f l hw
    simp only [Option.some.injEq] at h; subst h
    have hb := window_part_bounds hw
    simp [body_part rep hk f l hb.1, slice_length hb.1 (hl ▸ hb.2)]
  · split at h
    · simp only [Option.some.injEq] at h; subst h; simp
    · cases h

def C06_full : Prop :=
  (∀ (init : Bytes) (ws : List Bytes), (ws.foldl Buf.write (Buf.init init)).contentLength
      = (ws.foldl Buf.write (Buf.init init)).data.length
      ∧ (ws.foldl Buf.write (Buf.init init)).data = init ++ ws.flatten) ∧
  (∀ rep, KnownLength rep → ∀ rs o, respond rep rs = some o →
      (∀ n, o.contentLength = some n → n = o.body.length) ∧
      (0 < o.body.length → o.contentLength = some o.body.length))

theorem C06 : C06_full := ⟨C06_write_history, C06_emitted⟩

example : (([[1, 2], [], [3]] : List Bytes).foldl Buf.write (Buf.init [9])) = ⟨[9, 1, 2, 3], 4⟩ := by decide

end Poor.Props.C06
