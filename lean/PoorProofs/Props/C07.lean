import PoorProofs.Lemmas.Range
/-
C07 - byte-range answers follow RFC 9110 for every range and representation.
The specification (`rfc`, `expected`, `content`, `KnownLength`), what the model does measured against it, and
the results; the chunk skipper and the window arithmetic of the model are in PoorProofs/Lemmas/Range.lean.
-/
namespace Poor.Props.C07
open Poor Poor.Range

/-- RFC 9110 14.1.2, written declaratively: the selected inclusive window of a
    representation of length `L`, or `none` when the range is unsatisfiable -/
def rfc (L : Nat) : RangeT → Option (Nat × Nat)
  | (none, some n) => if n = 0 ∨ L = 0 then none else some (L - min L n, L - 1)
  | (some f, none) => if f ≥ L then none else some (f, L - 1)
  | (some f, some l) => if f ≥ L then none else some (f, min l (L - 1))
  | (none, none) => none

/-- a syntactically valid single byte range: `first-last` with first ≤ last, `first-`, `-suffix` -/
def ValidRange : RangeT → Prop
  | (some f, some l) => f ≤ l
  | (none, none) => False
  | _ => True

instance : DecidablePred ValidRange := fun r => by
  unfold ValidRange; split <;> infer_instance

/-- the bytes a representation stands for -/
def content : Rep → Bytes
  | .buffer d => d
  | .file c pos _ _ => c.drop pos
  | .gen cs _ => cs.flatten

/-- representations whose length the framework knows -/
def KnownLength : Rep → Prop
  | .buffer _ => True
  | .file c pos seekable sized => seekable = true ∧ sized = true ∧ pos ≤ c.length
  | .gen cs d => d = cs.flatten.length

/-- what RFC 9110 demands for a single range `r` over the bytes `b` -/
def expected (b : Bytes) (r : RangeT) : Out :=
  match rfc b.length r with
  | some (f, l) =>
    { status := 206
      contentRange := some ("bytes " ++ toString f ++ "-" ++ toString l ++ "/" ++ toString b.length)
      contentLength := some (l - f + 1)
      body := (b.drop f).take (l - f + 1) }
  | none =>
    { status := 416
      contentRange := some ("bytes " ++ showOpt r.1 ++ "-" ++ showOpt r.2 ++ "/" ++ toString b.length)
      contentLength := none
      body := [] }

/-- the chunk skipper equals the slice for every chunking -/
theorem rangeGen_spec (start l : Nat) (cs : List Bytes) :
    (rangeGen start (some l) 0 cs).flatten = ((cs.flatten).take (l + 1)).drop start :=
  rangeGen_some start l cs 0

/-- the window arithmetic agrees with RFC 9110 for every length and every valid range -/
theorem window_spec (L : Nat) (r : RangeT) (hv : ValidRange r) :
    window L [r] = match rfc L r with
      | some (f, l) => .part f l
      | none => .unsat := by
  obtain ⟨a, b⟩ := r
  cases a <;> cases b <;> simp only [ValidRange] at hv <;> simp only [window_cons, rfc]
  · split <;> rfl
  · split <;> rfl
  · simp only [Nat.not_lt.2 hv, or_false]
    split <;> rfl

theorem rfc_bounds {L : Nat} {r : RangeT} {f l : Nat} (hv : ValidRange r)
    (h : rfc L r = some (f, l)) : f ≤ l ∧ l < L :=
  window_part (rs := [r]) (by rw [window_spec L r hv, h])

/-- the selected slice really has the advertised length -/
theorem expected_length (b : Bytes) (r : RangeT) (hv : ValidRange r) {f l : Nat}
    (h : rfc b.length r = some (f, l)) :
    ((b.drop f).take (l - f + 1)).length = l - f + 1 :=
  slice_length (rfc_bounds hv h).1 (rfc_bounds hv h).2

/-- one step of `make_partial`'s loop -/
def mpStep (acc : List RangeT) (r : RangeT) : List RangeT :=
  match r with
  | (some s, some e) => if e < s then acc else if acc.contains r then acc else acc ++ [r]
  | _ => if acc.contains r then acc else acc ++ [r]

theorem makePartial_single (r : RangeT) (hv : ValidRange r) : makePartial [r] = [r] := by
  obtain ⟨a, b⟩ := r
  cases a <;> cases b <;> try rfl
  exact if_neg (Nat.not_lt.2 hv)

theorem body_part (rep : Rep) (hk : KnownLength rep) (f l : Nat) (hfl : f ≤ l) :
    rep.body f (some l) = ((content rep).drop f).take (l - f + 1) := by
  cases rep with
  | buffer d => simp [Rep.body, content]
  | file c pos seekable sized =>
    obtain ⟨h1, h2, _⟩ := hk; subst h1
    simp [Rep.body, content, List.drop_drop, Nat.add_comm]
  | gen cs d =>
    simp only [Rep.body, content, rangeGen_spec]
    rw [List.drop_take]
    congr 1; omega

theorem body_full (rep : Rep) (hk : KnownLength rep) : rep.body 0 none = content rep := by
  cases rep with
  | buffer d => simp [Rep.body, content]
  | file c pos seekable sized =>
    obtain ⟨h1, h2, _⟩ := hk; subst h1
    simp [Rep.body, content]
  | gen cs d => simp [Rep.body, content, rangeGen_none]

theorem length_eq (rep : Rep) (hk : KnownLength rep) : rep.length = (content rep).length := by
  cases rep with
  | buffer d => rfl
  | file c pos seekable sized =>
    obtain ⟨h1, h2, _⟩ := hk; subst h1; subst h2
    simp [Rep.length, content]
  | gen cs d => exact hk

/-- **C07, single range.** For every known-length representation (buffer, seekable
    file at any offset, chunk generator under every chunking) and every valid single
    range, the emitted answer is exactly what RFC 9110 demands: 206 + the slice +
    `bytes f-l/L` + matching Content-Length, or 416. -/
theorem C07_single (rep : Rep) (hk : KnownLength rep) (r : RangeT) (hv : ValidRange r) :
    respond rep [r] = some (expected (content rep) r) := by
  have hw := window_spec rep.length r hv
  have hl := length_eq rep hk
  simp only [respond, makePartial_single r hv, hw, expected, ← hl]
  -- not `simp [renderCR]`: for that Lean makes the equation `renderCR.eq_1` and tests whether it holds by `rfl` at
  -- reducible transparency, which fails only after a long `whnf`.  `unfold` makes no equation
  unfold renderCR
  cases hr : rfc rep.length r with
  | none => simp
  | some p =>
    obtain ⟨f, l⟩ := p
    have hb := rfc_bounds hv hr
    simp [body_part rep hk f l hb.1]

theorem C07_buffer (d : Bytes) (r : RangeT) (hv : ValidRange r) :
    respond (.buffer d) [r] = some (expected d r) :=
  C07_single (.buffer d) trivial r hv

theorem C07_file (c : Bytes) (pos : Nat) (hp : pos ≤ c.length) (r : RangeT) (hv : ValidRange r) :
    respond (.file c pos true true) [r] = some (expected (c.drop pos) r) :=
  C07_single (.file c pos true true) ⟨rfl, rfl, hp⟩ r hv

theorem C07_generator (cs : List Bytes) (r : RangeT) (hv : ValidRange r) :
    respond (.gen cs cs.flatten.length) [r] = some (expected cs.flatten r) :=
  C07_single (.gen cs cs.flatten.length) rfl r hv

/-- without a range: 200 and the complete body; Content-Length whenever the body is non-empty -/
theorem C07_no_range (rep : Rep) (hk : KnownLength rep) :
    respond rep [] = some { status := 200, contentRange := none,
                            contentLength := if (content rep).length = 0 then none
                                             else some (content rep).length,
                            body := content rep } := by
  simp [respond, makePartial, window, body_full rep hk, length_eq rep hk]

/-- `make_partial` only ever appends to what it has collected -/
theorem mpStep_prefix (acc : List RangeT) (x : RangeT) : acc <+: mpStep acc x := by
  unfold mpStep
  split
  · split
    · exact List.prefix_rfl
    · split
      · exact List.prefix_rfl
      · exact List.prefix_append _ _
  · split
    · exact List.prefix_rfl
    · exact List.prefix_append _ _

theorem foldl_mpStep_prefix (acc rs : List RangeT) : acc <+: rs.foldl mpStep acc :=
  List.foldlRecOn rs mpStep List.prefix_rfl fun b hb x _ => hb.trans (mpStep_prefix b x)

theorem makePartial_head (r : RangeT) (hv : ValidRange r) (rs : List RangeT) :
    ∃ t, makePartial (r :: rs) = r :: t := by
  have h0 : makePartial (r :: rs) = rs.foldl mpStep (makePartial [r]) := rfl
  obtain ⟨t, ht⟩ := foldl_mpStep_prefix [r] rs
  exact ⟨t, by rw [h0, makePartial_single r hv, ← ht]; rfl⟩

/-- several ranges: only the first (valid) one is used -/
theorem C07_first_range_only (rep : Rep) (r : RangeT) (hv : ValidRange r) (rs : List RangeT) :
    respond rep (r :: rs) = respond rep [r] := by
  obtain ⟨t, ht⟩ := makePartial_head r hv rs
  simp only [respond, ht, makePartial_single r hv]
  obtain ⟨a, b⟩ := r
  rfl

def C07_full : Prop :=
  (∀ rep, KnownLength rep → ∀ r, ValidRange r → ∀ rs,
      respond rep (r :: rs) = some (expected (content rep) r)) ∧
  (∀ rep, KnownLength rep →
      respond rep [] = some { status := 200, contentRange := none,
                              contentLength := if (content rep).length = 0 then none
                                               else some (content rep).length,
                              body := content rep }) ∧
  (∀ (b : Bytes) r f l, ValidRange r → rfc b.length r = some (f, l) →
      f ≤ l ∧ l < b.length ∧ ((b.drop f).take (l - f + 1)).length = l - f + 1)

theorem C07 : C07_full :=
  ⟨fun rep hk r hv rs => by rw [C07_first_range_only rep r hv rs]; exact C07_single rep hk r hv,
   C07_no_range,
   fun b r f l hv h => ⟨(rfc_bounds hv h).1, (rfc_bounds hv h).2, expected_length b r hv h⟩⟩

/-! ### non-vacuity: the hypotheses hold of something; a 206 for each kind of representation, and a 416 -/
example : KnownLength (.gen [[1, 2], [], [3]] 3) ∧ ValidRange (some 1, some 1) := by
  simp [KnownLength, ValidRange]
example : respond (.buffer [10, 11, 12, 13]) [(some 0, some 0)]
    = some ⟨206, some "bytes 0-0/4", some 1, [10]⟩ := by decide
example : respond (.gen [[10], [], [11, 12], [13]] 4) [(none, some 3), (some 0, some 0)]
    = some ⟨206, some "bytes 1-3/4", some 3, [11, 12, 13]⟩ := by decide
example : respond (.file [9, 9, 10, 11, 12] 2 true true) [(some 1, none)]
    = some ⟨206, some "bytes 1-2/3", some 2, [11, 12]⟩ := by decide
example : (respond (.buffer [10, 11]) [(some 2, some 5)]).map (·.status) = some 416 := by decide

end Poor.Props.C07
