import PoorProofs.Lemmas.Multipart
import PoorProofs.Lemmas.MultipartG
/-
C08 - multipart/form-data decodes to exactly the parts that were encoded.
-/
namespace Poor.Props.C08
open Poor Poor.Multipart

/-- **content extraction (in-memory reader).**  Let `nb = "--" ++ boundary` be a delimiter (printable,
    no trailing blank, shorter than a line) that does not occur in the content `c` - which may hold
    anything else: CR, LF, CRLF, dashes, prefixes of the delimiter, the boundary without its dashes,
    NUL, 0xFF, and lines of any length (longer ones are read in 64 KiB pieces).  Then on
    `c CRLF nb CRLF tail` the content loop returns exactly `c`, reports "another part follows" and
    leaves the reader exactly at `tail`; on `c CRLF nb "--" CRLF tail` and on `c CRLF nb "--"` at
    the very end of the input (no final CRLF) it returns `c` and reports the closing delimiter. -/
theorem C08_extract (nb c tail mark eol : Bytes) (hb : BOk nb) (hno : ¬ nb <:+: c)
    (hmark : mark = [] ∨ mark = [DASH, DASH]) (heol : eol = [CR, LF] ∨ (eol = [] ∧ tail = []))
    (fuel : Nat) (hfuel : c.length + 2 < fuel) :
    readLines lfReader nb (nb ++ [DASH, DASH]) fuel ⟨[], [], true⟩
        (c ++ [CR, LF] ++ (nb ++ mark ++ eol ++ tail))
      = (c, if mark = [] then Stop.next else Stop.last, tail) := by
  obtain ⟨r', h, _, hr'⟩ := extractG lfContract nb c tail mark eol hb hno hmark heol fuel hfuel _ ⟨trivial, rfl⟩
  rw [h, show r' = tail from hr']

/-- a delimiter made of an RFC 2046 boundary satisfies the hypotheses -/
theorem BOk_of_boundary (ib : Bytes) (hne : ib ≠ []) (hlen : ib.length ≤ 70)
    (hchars : ∀ x ∈ ib, 32 ≤ x.toNat ∧ x.toNat ≤ 126) (hlast : ib.getLast? ≠ some 32) :
    BOk (DASH :: DASH :: ib) := by
  have hall : ∀ y ∈ DASH :: DASH :: ib, 32 ≤ y.toNat :=
    List.forall_mem_cons.2 ⟨by decide, List.forall_mem_cons.2 ⟨by decide, fun y h => (hchars y h).1⟩⟩
  refine ⟨rfl, ⟨DASH :: DASH :: ib.dropLast, ib.getLast hne, ?_, ?_⟩, fun h => absurd (hall CR h) (by decide),
    fun h => absurd (hall LF h) (by decide), ?_⟩
  · simp [List.dropLast_concat_getLast hne]
  · have hr := hchars _ (List.getLast_mem hne)
    have hn : (ib.getLast hne).toNat ≠ 32 := fun h =>
      hlast (by rw [List.getLast?_eq_some_getLast hne, UInt8.toNat_inj.1 (show _ = (32 : UInt8).toNat from h)])
    simp only [isWs, Bool.or_eq_false_iff, decide_eq_false_iff_not, ← UInt8.toNat_inj, UInt8.toNat_ofNat]
    omega
  · simp [LINE_CAP]; omega

theorem validBoundary_of (ib : Bytes) (hne : ib ≠ []) (hlen : ib.length ≤ 70)
    (hchars : ∀ x ∈ ib, 32 ≤ x.toNat ∧ x.toNat ≤ 126) (hlast : ib.getLast? ≠ some 32) :
    validBoundary ib = true := by
  have h2 : ∀ x ∈ ib, (decide (32 ≤ x.toNat) && decide (x.toNat ≤ 126)) = true := fun x hx => by
    simp [hchars x hx]
  -- RFC 2046 allows 70 characters, the `valid_boundary` pattern 201
  have h4 : ib.length ≤ 201 := by omega
  simp [validBoundary, hne, List.all_eq_true.2 h2, hlast, h4]

/-- **C08, in-memory delivery, whole bodies.**  For every RFC 2046 boundary, every non-empty list of
    parts - names and file names with any characters but CR/LF (spaces, quotes, semicolons,
    backslashes, non-ASCII), an optional plain media type, contents with any bytes and any line
    lengths that do not contain the delimiter - encoded per RFC 7578 with or without a final CRLF
    after the closing delimiter, the parser returns exactly the parts, in order: names, file names,
    media types (`text/plain` when none was sent), byte-exact contents, and which parts are files. -/
theorem C08_memory (ib final : Bytes) (hne : ib ≠ []) (hlen : ib.length ≤ 70)
    (hchars : ∀ x ∈ ib, 32 ≤ x.toNat ∧ x.toNat ≤ 126) (hlast : ib.getLast? ≠ some 32)
    (hfinal : final = [CR, LF] ∨ final = []) (ps : List EPart) (hps : ps ≠ []) (hok : ∀ p ∈ ps, PartOK ib p)
    (fuel : Nat) (hfuel : ∀ p ∈ ps, p.content.length + 3 + ps.length < fuel) :
    parseMultipart lfReader ib fuel (encode ib final ps) = .ok (ps.map expected) :=
  parse_encode ib final (BOk_of_boundary ib hne hlen hchars hlast)
    (validBoundary_of ib hne hlen hchars hlast) hfinal ps hps hok fuel hfuel

/-- **C08 over any line reader that honours the contract** (`Contract`: lines are consecutive pieces
    of the pending input, non-empty while input is left, never run past the first CRLF, return a
    complete CR/LF-free line whole, and a reader that stops after a CR says so).  Same statement as
    `C08_memory`, for every reader state whose pending input is the encoded body. -/
theorem C08_any_reader {R : Type} {rd : Rd R} {pend : R → Bytes} {Ok afterCR : R → Prop}
    (hc : Contract rd pend Ok afterCR) (ib final : Bytes) (hne : ib ≠ []) (hlen : ib.length ≤ 70)
    (hchars : ∀ x ∈ ib, 32 ≤ x.toNat ∧ x.toNat ≤ 126) (hlast : ib.getLast? ≠ some 32)
    (hfinal : final = [CR, LF] ∨ final = []) (ps : List EPart) (hps : ps ≠ []) (hok : ∀ p ∈ ps, PartOK ib p)
    (fuel : Nat) (hfuel : ∀ p ∈ ps, p.content.length + 3 + ps.length < fuel)
    (r : R) (hr : Ok r) (hpend : pend r = encode ib final ps) :
    parseMultipart rd ib fuel r = .ok (ps.map expected) :=
  parse_encodeG hc ib final (BOk_of_boundary ib hne hlen hchars hlast)
    (validBoundary_of ib hne hlen hchars hlast) hfinal ps hps hok fuel hfuel r hr hpend

/-- **C08, delivery through the block-caching reader (`CachedInput`).**  For every reader state -
    any block size, any part of the body already buffered, the rest still to be fetched from the
    stream - whose pending input is the encoded body, the parser returns exactly the parts. -/
theorem C08_cached (ib final : Bytes) (hne : ib ≠ []) (hlen : ib.length ≤ 70)
    (hchars : ∀ x ∈ ib, 32 ≤ x.toNat ∧ x.toNat ≤ 126) (hlast : ib.getLast? ≠ some 32)
    (hfinal : final = [CR, LF] ∨ final = []) (ps : List EPart) (hps : ps ≠ []) (hok : ∀ p ∈ ps, PartOK ib p)
    (fuel : Nat) (hfuel : ∀ p ∈ ps, p.content.length + 3 + ps.length < fuel)
    (s : Reader.St) (hpend : s.pending = encode ib final ps) :
    parseMultipart cachedReader ib fuel s = .ok (ps.map expected) :=
  C08_any_reader cachedContract ib final hne hlen hchars hlast hfinal ps hps hok fuel hfuel s trivial hpend

/-- **C08 with a preamble.**  Text before the first delimiter (RFC 2046 5.1.1: to be ignored) - any lines, empty
    ones included, none of which is the delimiter line - changes nothing, over every reader that honours the line
    contract (the in-memory one and the block-caching one in every state). -/
theorem C08_preamble {R : Type} {rd : Rd R} {pend : R → Bytes} {Ok afterCR : R → Prop}
    (hc : Contract rd pend Ok afterCR) (ib final : Bytes) (hne : ib ≠ []) (hlen : ib.length ≤ 70)
    (hchars : ∀ x ∈ ib, 32 ≤ x.toNat ∧ x.toNat ≤ 126) (hlast : ib.getLast? ≠ some 32)
    (hfinal : final = [CR, LF] ∨ final = []) (ps : List EPart) (hps : ps ≠ []) (hok : ∀ p ∈ ps, PartOK ib p)
    (pre : List Bytes) (hpre : ∀ l ∈ pre, CR ∉ l ∧ LF ∉ l ∧ strip (l ++ [CR, LF]) ≠ DASH :: DASH :: ib)
    (fuel : Nat) (hfuel : ∀ p ∈ ps, p.content.length + 3 + ps.length + pre.length < fuel)
    (r : R) (hr : Ok r) (hpend : pend r = preambleText pre ++ encode ib final ps) :
    parseMultipart rd ib fuel r = .ok (ps.map expected) :=
  parse_encode_preambleG hc ib final (BOk_of_boundary ib hne hlen hchars hlast)
    (validBoundary_of ib hne hlen hchars hlast) hfinal ps hps hok pre hpre fuel hfuel r hr hpend

/-- non-vacuity: the usual MIME preamble followed by an empty line -/
example : ∀ l ∈ [[84, 104, 105, 115], ([] : Bytes)], CR ∉ l ∧ LF ∉ l ∧ strip (l ++ [CR, LF]) ≠ DASH :: DASH :: [66] := by
  decide

/-- the state the request starts in: nothing buffered, the declared length is the body's length, the
    stream delivers the body in pieces of any sizes (`script`: short reads) -/
theorem C08_cached_fresh (ib final : Bytes) (hne : ib ≠ []) (hlen : ib.length ≤ 70)
    (hchars : ∀ x ∈ ib, 32 ≤ x.toNat ∧ x.toNat ≤ 126) (hlast : ib.getLast? ≠ some 32)
    (hfinal : final = [CR, LF] ∨ final = []) (ps : List EPart) (hps : ps ≠ []) (hok : ∀ p ∈ ps, PartOK ib p)
    (fuel : Nat) (hfuel : ∀ p ∈ ps, p.content.length + 3 + ps.length < fuel)
    (script : List Nat) (trailing : Bytes) :
    parseMultipart cachedReader ib fuel
        (Reader.St.init (encode ib final ps ++ trailing) (encode ib final ps).length script)
      = .ok (ps.map expected) :=
  C08_cached ib final hne hlen hchars hlast hfinal ps hps hok fuel hfuel _
    (by simp [Reader.St.pending, Reader.St.init])

/-- **the way the body is delivered does not matter**: in memory or through the caching reader with
    any block size, the decoded parts are the same. -/
theorem C08_delivery_independent (ib final : Bytes) (hne : ib ≠ []) (hlen : ib.length ≤ 70)
    (hchars : ∀ x ∈ ib, 32 ≤ x.toNat ∧ x.toNat ≤ 126) (hlast : ib.getLast? ≠ some 32)
    (hfinal : final = [CR, LF] ∨ final = []) (ps : List EPart) (hps : ps ≠ []) (hok : ∀ p ∈ ps, PartOK ib p)
    (fuel : Nat) (hfuel : ∀ p ∈ ps, p.content.length + 3 + ps.length < fuel)
    (s : Reader.St) (hpend : s.pending = encode ib final ps) :
    parseMultipart cachedReader ib fuel s = parseMultipart lfReader ib fuel (encode ib final ps) := by
  rw [C08_cached ib final hne hlen hchars hlast hfinal ps hps hok fuel hfuel s hpend,
    C08_memory ib final hne hlen hchars hlast hfinal ps hps hok fuel hfuel]

/-- non-vacuity: a content full of near-delimiters -/
example :
    readLines lfReader (DASH :: DASH :: [66]) (DASH :: DASH :: [66] ++ [DASH, DASH]) 40 ⟨[], [], true⟩
      ([45, 45, 13, 10, 45, 66, 13, 13, 10, 10] ++ [CR, LF] ++ (DASH :: DASH :: [66] ++ [] ++ [CR, LF] ++ [120]))
      = ([45, 45, 13, 10, 45, 66, 13, 13, 10, 10], Stop.next, [120]) := by
  apply C08_extract (DASH :: DASH :: [66]) _ [120] [] [CR, LF]
    (BOk_of_boundary [66] (by decide) (by decide) (by decide) (by decide)) (by decide) (Or.inl rfl) (Or.inl rfl)
  decide

/-- `PartOK` as one decidable statement (the structure has no `Decidable` instance, and `MainOK` is written out): a
    concrete part is then checked in one evaluation and not field by field, each of which decodes the string literals
    of the part again -/
theorem partOK_of_decide {ib : Bytes} {p : EPart}
    (h : ¬ (DASH :: DASH :: ib) <:+: p.content ∧
      (∀ t ∈ hdrTexts p, CR ∉ Headers.utf8enc t ∧ LF ∉ Headers.utf8enc t) ∧
      ('\n' ∉ dispValue p ∧ '\r' ∉ dispValue p) ∧
      ∀ t ∈ p.ctype, (t ≠ [] ∧ ∀ c ∈ t, c ≠ ';' ∧ c ≠ '"' ∧ HeaderValue.isSpace c = false) ∧
        '\n' ∉ t ∧ '\r' ∉ t ∧ t.take 10 ≠ "multipart/".toList) : PartOK ib p :=
  ⟨h.1, h.2.1, h.2.2.1, fun t ht => h.2.2.2 t ht⟩

/-- non-vacuity of `PartOK`: a file part with an awkward name and a content made of CR, LF and dashes -/
def demoPart : EPart :=
  ⟨"a b".toList, some "x\\y\".bin".toList, some "image/png".toList, [1, 2, 13, 10, 45, 45, 13, 45, 66]⟩

example : PartOK [66] demoPart := partOK_of_decide (by decide +kernel)

/-- ... and a part whose media type is `application/x-www-form-urlencoded` (the model and the theorems excluded
    that type until the parser was repaired, /repo 233a847: the hypothesis had marked the defect) -/
example : PartOK [66] ⟨"q".toList, none, some "application/x-www-form-urlencoded".toList, [97, 61, 49]⟩ :=
  partOK_of_decide (by decide +kernel)

end Poor.Props.C08
