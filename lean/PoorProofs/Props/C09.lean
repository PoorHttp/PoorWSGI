import PoorProofs.Lemmas.Reader
/-
C09 - the caching body reader returns the body exactly once, in order, and stops.
Each clause is read off the lemmas of PoorProofs/Lemmas/Reader.lean (`C09_length` and `C09_bounded_reads` with a few
steps of their own).  `C09_full` is six of the clauses written out again as one proposition; `C09_length` is not
among them.
-/
namespace Poor.Props.C09
open Poor Poor.Reader

/-- **exactly once, in order.** For every stream, declared length `n`, block size,
    short-read script and every history of read/readline calls with any size
    arguments: the chunks returned, followed by what the reader still owes, are
    exactly the first `n` bytes of the stream. Hence the chunks concatenate to a
    prefix of those bytes: nothing lost, duplicated or reordered. -/
theorem C09_prefix (src : Bytes) (n block : Nat) (script : List Nat) (ops : List Op) :
    (run block (St.init src n script) ops).1.flatten
      ++ (run block (St.init src n script) ops).2.pending = src.take n := by
  simpa [St.init, St.pending] using (Delivers.run block (St.init src n script) ops).pending

theorem C09_prefix' (src : Bytes) (n block : Nat) (script : List Nat) (ops : List Op) :
    (run block (St.init src n script) ops).1.flatten <+: src.take n :=
  ⟨_, C09_prefix src n block script ops⟩

/-- **reaches everything.** A call with a positive (resolved) size returns the empty
    string only when nothing is owed any more: all available bytes of the declared
    body have been returned. -/
theorem C09_complete (block : Nat) (s : St) (op : Op)
    (hsz : 0 < (match op with | .read z => resolve block z | .readline z => resolve block z))
    (h : (step block s op).1 = []) : s.pending = [] := by
  cases op with
  | read z => exact read_complete s _ hsz h
  | readline z => exact readline_complete s _ hsz h

/-- **budget.** After any history, every underlying request `(k, t)` asked for at most
    the `t` bytes that were left of the declared length at that moment, and the stream
    position plus the remaining budget is always `n` - the reader never consumes the
    stream beyond its first `n` bytes. -/
theorem C09_budget (src : Bytes) (n block : Nat) (script : List Nat) (ops : List Op) :
    (∀ p ∈ (run block (St.init src n script) ops).2.log, p.1 ≤ p.2) ∧
    (∃ pre, src = pre ++ (run block (St.init src n script) ops).2.src ∧
            pre.length + (run block (St.init src n script) ops).2.todo = n) := by
  have h0 : Inv src n (St.init src n script) :=
    ⟨by intro p hp; simp [St.init] at hp, [], by simp [St.init], by simp [St.init]⟩
  exact (Delivers.run block _ ops).inv src n h0

/-- **no CRLF inside a line.** -/
theorem C09_no_interior_crlf (s : St) (size : Nat) :
    ∀ pre suf, (readline s size).1 = pre ++ CR :: LF :: suf → suf = [] :=
  onlyFinal_readline s size

/-- **cut reason.** A line that does not end in CRLF reached the caller's size limit
    (or everything that was left), or the input is exhausted, or it was cut one byte early
    because that byte is a CR that may be the first half of a CRLF: the CR is then the next
    byte delivered. -/
theorem C09_cut_reason (s : St) (size : Nat) :
    (∃ pre, (readline s size).1 = pre ++ [CR, LF])
    ∨ min size (s.buf.length + s.todo) ≤ (readline s size).1.length
    ∨ (readline s size).2.pending = []
    ∨ ((readline s size).2.buf.head? = some CR ∧
        min size (s.buf.length + s.todo) ≤ (readline s size).1.length + 1) :=
  readline_cut s size

/-- a result is never longer than asked -/
theorem C09_length (s : St) (size : Nat) :
    (readline s size).1.length ≤ size ∧ (read s size).1.length ≤ size := by
  constructor
  · have := (readlineLoop_line (min size (s.buf.length + s.todo)) [] s noCRLF_nil (Nat.zero_le _)).2.1
    have := giveBack_length (min size (s.buf.length + s.todo)) (readlineLoop (min size (s.buf.length + s.todo)) [] s)
    unfold readline; omega
  · unfold Reader.read
    simp only
    have hsz : min (s.todo + s.buf.length) size ≤ size := Nat.min_le_right _ _
    generalize min (s.todo + s.buf.length) size = sz at hsz ⊢
    split
    · exact Nat.le_trans (List.length_take_le _ _) hsz
    · have := cap_le s (sz - s.buf.length)
      simp only [List.length_append, under_fst, List.length_take]
      omega

/-- **bounded work.** `read` performs at most one underlying read, `readline(size)` at most `size`. -/
theorem C09_bounded_reads (s : St) (size : Nat) :
    (read s size).2.log.length ≤ s.log.length + 1 ∧
    (readline s size).2.log.length ≤ s.log.length + size := by
  constructor
  · exact read_reads s size
  · have := readlineLoop_reads (min size (s.buf.length + s.todo)) [] s
    unfold readline; rw [giveBack_log]; simp at this; omega

def C09_full : Prop :=
  (∀ src n block script ops,
      (run block (St.init src n script) ops).1.flatten
        ++ (run block (St.init src n script) ops).2.pending = src.take n) ∧
  (∀ block s op,
      0 < (match op with | .read z => resolve block z | .readline z => resolve block z) →
      (step block s op).1 = [] → s.pending = []) ∧
  (∀ src n block script ops,
      (∀ p ∈ (run block (St.init src n script) ops).2.log, p.1 ≤ p.2) ∧
      (∃ pre, src = pre ++ (run block (St.init src n script) ops).2.src ∧
              pre.length + (run block (St.init src n script) ops).2.todo = n)) ∧
  (∀ s size pre suf, (readline s size).1 = pre ++ CR :: LF :: suf → suf = []) ∧
  (∀ s size, (∃ pre, (readline s size).1 = pre ++ [CR, LF])
      ∨ min size (s.buf.length + s.todo) ≤ (readline s size).1.length
      ∨ (readline s size).2.pending = []
      ∨ ((readline s size).2.buf.head? = some CR ∧
          min size (s.buf.length + s.todo) ≤ (readline s size).1.length + 1)) ∧
  (∀ s size, (Reader.read s size).2.log.length ≤ s.log.length + 1 ∧
      (readline s size).2.log.length ≤ s.log.length + size)

theorem C09 : C09_full :=
  ⟨C09_prefix, C09_complete, C09_budget, C09_no_interior_crlf, C09_cut_reason, C09_bounded_reads⟩

/-! non-vacuity: a CRLF divided to two blocks is still returned at the end of one line -/
example : (run 3 (St.init [97, 98, 13, 10, 99] 5 []) [.readline 65536, .readline (-1)]).1
    = [[97, 98, 13, 10], [99]] := by
  decide +kernel
example : (run 8 (St.init [97, 13, 10, 98] 3 [0, 0]) [.readline (-1), .read (-1), .read 1]).1
    = [[97, 13, 10], [], []] := by
  decide +kernel

/-! a line cut by the size limit leaves the CR of a CRLF for the next line -/
example : (run 8 (St.init [97, 98, 13, 10, 99] 5 []) [.readline 3, .readline 3, .readline 3]).1
    = [[97, 98], [13, 10], [99]] := by
  decide +kernel

end Poor.Props.C09
