import PoorProofs.Lemmas.Query
import PoorProofs.Lemmas.HeaderValue
import PoorProofs.Props.JsonCodec
import PoorProofs.Lemmas.ReadAll
/-
C10 - query, form and JSON data reach handlers exactly as sent.
-/
namespace Poor.Props.C10
open Poor Poor.Query

/-! ### query strings and urlencoded bodies -/

/-- **round trip, any admissible encoding.**  Let `fs` be fields `ek=ev` where `ek`, `ev` encode the
    key and the value of each pair character by character - a raw (non-separator, non-space ASCII)
    character, `+` for a space, or `%XY` escapes of the UTF-8 bytes with hex digits of either case,
    also for characters that would not need escaping.  Then `parse_qsl` of the fields joined by `&`
    returns exactly the pairs, in order (all of them when blank values are kept, those with a
    non-empty value otherwise) - for strict parsing on or off. -/
theorem C10_roundtrip_any_encoding (keep strict : Bool) {ps : Pairs} {fs : List Str} (h : EncFields ps fs) :
    parseQsl keep strict (['&'].intercalate fs) = .ok (kept keep ps) :=
  parseQsl_enc keep strict h

/-- the encoder of the standard library (`urlencode`) is one of these encodings -/
theorem C10_roundtrip (keep strict : Bool) (ps : Pairs) :
    parseQsl keep strict (urlencode ps) = .ok (kept keep ps) :=
  parseQsl_enc keep strict (urlencode_EncFields ps)

theorem enc_query_chars {ps : Pairs} {fs : List Str} (h : EncFields ps fs) :
    ∀ x ∈ ['&'].intercalate fs, HeaderValue.isSpace x = false := by
  intro x hx
  rcases List.mem_intercalate hx with hx | ⟨f, hf, hx⟩
  · cases List.mem_singleton.1 hx
    decide
  · exact (EncFields_chars h f hf x hx).2

/-- the same through `Request`: `req.args` is built from the stripped QUERY_STRING -/
theorem C10_query_args (keep strict : Bool) {ps : Pairs} {fs : List Str} (h : EncFields ps fs) :
    reqArgs keep strict (['&'].intercalate fs) = .ok (mkArgs (kept keep ps)) := by
  rw [reqArgs, HeaderValue.strip_nospace (enc_query_chars h), parseQsl_enc keep strict h]
  rfl

/-- `parse_qs`: keys in first-seen order, under each key the values sent for it, in order -/
theorem C10_group (ps : Pairs) (k : Str) :
    (group ps).map (·.1) = fsKeys ps ∧
    dictGet (group ps) k = (if (fsFound ps k).isEmpty then none else some (fsFound ps k)) :=
  ⟨group_keys ps, group_get ps k⟩

/-- `req.args`: single keys are scalars, repeated keys lists in order, and the three accessors agree:
    `getlist` is the list of values sent for the key, `getfirst` its head, `getvalue` the scalar
    or the list -/
theorem C10_args (ps : Pairs) (k : Str) :
    argsGetlist (mkArgs ps) k = fsFound ps k ∧
    argsGetfirst (mkArgs ps) k = (fsFound ps k).head? ∧
    argsGetvalue (mkArgs ps) k =
      (match fsFound ps k with
       | [] => none
       | [v] => some (.one v)
       | l => some (.many l)) := by
  unfold argsGetlist argsGetfirst argsGetvalue
  rw [mkArgs_get]
  match h : fsFound ps k with
  | [] => simp
  | [v] => simp [collapse]
  | a :: b :: t =>
    have : ¬ (t.length + 1 + 1 < 2) := by omega
    simp [collapse, this]

/-- `req.form` of a urlencoded body: the same three facts -/
theorem C10_form (ps : Pairs) (k : Str) :
    fsGetlist ps k = fsFound ps k ∧
    fsGetfirst ps k = (fsFound ps k).head? ∧
    fsGetvalue ps k =
      (match fsFound ps k with
       | [] => none
       | [v] => some (.one v)
       | l => some (.many l)) := by
  unfold fsGetlist fsGetfirst fsGetvalue
  match h : fsFound ps k with
  | [] => simp
  | [v] => simp
  | a :: b :: t => simp

/-- query and form expose the same pair list identically -/
theorem C10_args_form_agree (ps : Pairs) (k : Str) :
    argsGetlist (mkArgs ps) k = fsGetlist ps k ∧
    argsGetfirst (mkArgs ps) k = fsGetfirst ps k ∧
    argsGetvalue (mkArgs ps) k = fsGetvalue ps k ∧
    (mkArgs ps).map (·.1) = fsKeys ps := by
  obtain ⟨a1, a2, a3⟩ := C10_args ps k
  obtain ⟨f1, f2, f3⟩ := C10_form ps k
  refine ⟨by rw [a1, f1], by rw [a2, f2], by rw [a3, f3], ?_⟩
  rw [← group_keys]
  simp [mkArgs]

/-- blank values: kept as the empty string, or dropped, per the setting - never anything else -/
theorem C10_blank (keep : Bool) (ps : Pairs) (k : Str) :
    fsFound (kept keep ps) k =
      if keep then fsFound ps k else (fsFound ps k).filter (fun v => !v.isEmpty) := by
  unfold kept fsFound
  cases keep
  · simp only [Bool.false_eq_true, if_false, List.filter_filter, List.filter_map]
    congr 1
    apply List.filter_congr
    intro x _
    simp [Bool.and_comm]
  · simp

/-! ### JSON -/

/-- JsonDict / JsonList: `getlist` is the list itself for an array value and the one-item list for
    any other value, `getfirst` is its head (the default for an empty array), an absent key gives
    the defaults -/
theorem C10_json_accessors (o : List (Str × J)) (l : List J) (k : Str) :
    jdGetfirst o k = (jdGetlist o k).head? ∧
    (∀ items, jdGetvalue o k = some (.arr items) → jdGetlist o k = items) ∧
    (∀ v, jdGetvalue o k = some v → v.kind ≠ .list → jdGetlist o k = [v]) ∧
    (jdGetvalue o k = none → jdGetlist o k = [] ∧ jdGetfirst o k = none) ∧
    jlGetfirst l = (jlGetlist l).head? := by
  unfold jdGetfirst jdGetlist jdGetvalue jlGetfirst jlGetlist
  refine ⟨?_, ?_, ?_, ?_, rfl⟩
  · cases h : dictGet o k with
    | none => rfl
    | some v => cases v <;> rfl
  · intro items h; rw [h]
  · intro v h hv
    rw [h]
    cases v with
    | arr l => exact absurd rfl hv
    | _ => rfl
  · intro h; rw [h]; exact ⟨rfl, rfl⟩

/-- `parse_json_request(raw, "utf-8")`: what the handler finds as `req.json`, `none` = 400 Bad Request.
    A dict becomes a `JsonDict`, a list a `JsonList` (of equal content), any other value is handed over as it is. -/
def parseJsonRequest (raw : Bytes) : Option Poor.Json.J := Poor.Json.loadBytes raw

/-- **a JSON value sent is the value exposed**: for every well-formed value (objects, arrays and scalars at top
    level, any nesting), the body a client produces with `json.dumps` is parsed to an equal value and the request
    is not refused; the exposed value is dict-like exactly for an object and list-like exactly for an array. -/
theorem C10_json_value (v : Poor.Json.J) (h : Poor.Json.JOk v) :
    parseJsonRequest (Poor.Json.dumpBytes v) = some v :=
  JsonCodec.loadBytes_dumpBytes v h

/-- **whatever spelling the client chose**: white space between the tokens, raw non-ASCII characters or escapes of
    any style in strings, repeated keys - the request exposes the value the text denotes (`Txt v s`), it is not
    refused.  `C10_json_value` is the instance `s = json.dumps(v)` (`Poor.Json.Txt_dump`). -/
theorem C10_json_any_spelling {v : Poor.Json.J} {s : Str} (h : Poor.Json.Txt v s) (w1 w2 : Str)
    (h1 : Poor.Json.AllWs w1) (h2 : Poor.Json.AllWs w2) :
    parseJsonRequest (Poor.Headers.utf8enc (w1 ++ (s ++ w2))) = some v :=
  JsonCodec.loadBytes_any_spelling h w1 w2 h1 h2

/-! ### a body that arrives in pieces -/

/-- **the pieces do not matter.**  The input holds the declared body followed by whatever comes next on the
    connection, and hands over fewer bytes than asked for, read after read, as the script says (any script).
    `read_length` - what the `auto_data` buffer, `Request.read` and the urlencoded form reader take the body
    with - returns exactly the body and leaves the input exactly behind it. -/
theorem C10_body_in_pieces (body next : Bytes) (script : List Nat) :
    (ReadAll.readLength { src := body ++ next, script := script } body.length).1 = body ∧
    (ReadAll.readLength { src := body ++ next, script := script } body.length).2.src = next := by
  have h := ReadAll.readLength_spec { src := body ++ next, script := script } body.length
  simpa using h

/-- an input that ends before the declared length gives all it has (and the loop ends) -/
theorem C10_body_cut_short (src : Bytes) (n : Nat) (script : List Nat) (h : src.length ≤ n) :
    (ReadAll.readLength { src := src, script := script } n).1 = src := by
  have h' := (ReadAll.readLength_spec { src := src, script := script } n).1
  simpa [List.take_of_length_le h] using h'

/-- so a JSON value sent is the value exposed however its bytes arrive (`C10_json_value` composed with the reader) -/
theorem C10_json_in_pieces (v : Poor.Json.J) (h : Poor.Json.JOk v) (next : Bytes) (script : List Nat) :
    parseJsonRequest (ReadAll.readLength { src := Poor.Json.dumpBytes v ++ next, script := script }
      (Poor.Json.dumpBytes v).length).1 = some v := by
  rw [(C10_body_in_pieces _ next script).1]
  exact C10_json_value v h

example : (ReadAll.readLength { src := [1, 2, 3, 4, 5, 6, 7], script := [0, 1, 0] } 5).1 = [1, 2, 3, 4, 5] ∧
          (ReadAll.readLength { src := [1, 2, 3, 4, 5, 6, 7], script := [0, 1, 0] } 5).2.src = [6, 7] :=
  C10_body_in_pieces [1, 2, 3, 4, 5] [6, 7] [0, 1, 0]

/-! ### what is taken from `wsgi.input`: before the handler runs (`taken`), and by the handler (`reqReads`)

Not covered by a bound: a negative Content-Length on HTTP/0.9.  `plan` then still selects a parser, `file.read(n)`
with a negative `n` returns the whole stream, and only `C10_taken_prefix` applies. -/

/-- whatever is taken before the handler runs is taken by one `read(Content-Length)` -/
theorem taken_cases (c : Cfg) (cl : Int) (h09 : Bool) (mime : Str) (stream b : Bytes)
    (h : taken c cl h09 mime stream = some b) : b = [] ∨ b = streamRead stream cl := by
  unfold taken at h
  split at h
  · exact .inr (Option.some.inj h).symm
  · split at h
    · exact .inr (Option.some.inj h).symm
    · split at h
      · exact .inr (Option.some.inj h).symm
      · cases h
    · exact .inl (Option.some.inj h).symm

/-- with a declared Content-Length, at most that many bytes are taken from `wsgi.input` before the
    handler runs - whatever the switches, the content type, the protocol and the stream hold
    (bodies read with one `read` call; multipart bodies: C08/C09) -/
theorem C10_taken_le (c : Cfg) (cl : Int) (h09 : Bool) (mime : Str) (stream b : Bytes) (hcl : 0 ≤ cl)
    (h : taken c cl h09 mime stream = some b) : b.length ≤ cl.toNat := by
  rcases taken_cases c cl h09 mime stream b h with rfl | rfl
  · exact Nat.zero_le _
  · rw [streamRead_nonneg _ hcl, List.length_take]
    exact Nat.min_le_left ..

/-- what is taken is a prefix of the stream: nothing is skipped, nothing re-ordered -/
theorem C10_taken_prefix (c : Cfg) (cl : Int) (h09 : Bool) (mime : Str) (stream b : Bytes)
    (h : taken c cl h09 mime stream = some b) : b <+: stream := by
  rcases taken_cases c cl h09 mime stream b h with rfl | rfl
  · exact List.nil_prefix
  · unfold streamRead
    split
    · exact List.prefix_refl _
    · exact List.take_prefix _ _

/-- no (positive) Content-Length, no read - for every method, content type and switch -/
theorem C10_no_body_no_read (c : Cfg) (cl : Int) (mime : Str) (stream : Bytes) (hcl : cl ≤ 0) :
    taken c cl false mime stream = some [] := by
  unfold taken
  have hp : plan c cl false mime = .none := by
    unfold plan isBody
    have : decide (cl > 0) = false := by simp; omega
    simp [this]
  rw [hp]
  split
  · rename_i hb
    have h0 := ((buffered_iff c cl).1 hb).2.1
    rw [streamRead_nonneg _ h0, Int.le_antisymm hcl h0]
    rfl
  · rfl

/-- `req.data` is the first Content-Length bytes of the stream when buffering applies, `None` otherwise -/
theorem C10_data (c : Cfg) (cl : Int) (stream : Bytes) :
    data c cl stream =
      if c.autoData ∧ 0 ≤ cl ∧ cl ≤ c.dataSize then some (stream.take cl.toNat) else none := by
  simp only [data, buffered_iff]
  split
  · rename_i h
    rw [streamRead_nonneg _ h.2.1]
  · rfl

/-- the JSON parser is chosen exactly for a request with a body (or HTTP/0.9), a configured JSON
    media type and the switch on; the form parser never for such a request -/
theorem C10_plan_json (c : Cfg) (cl : Int) (h09 : Bool) (mime : Str) :
    plan c cl h09 mime = .json ↔ (c.autoJson = true ∧ (cl > 0 ∨ h09 = true) ∧ mime ∈ c.jsonTypes) := by
  unfold plan isBody
  constructor
  · intro h
    split at h
    · rename_i hc
      simpa [Bool.and_eq_true, Bool.or_eq_true, and_assoc] using hc
    · split at h <;> cases h
  · intro ⟨h1, h2, h3⟩
    have : (c.autoJson && (decide (cl > 0) || h09) && c.jsonTypes.contains mime) = true := by
      simp [h1, h3]
      exact h2
    rw [if_pos this]

/-- **the body is never read beyond the declared length, whatever the handler asks for**: any sequence of
    `req.read(k)` / `req.read()` calls returns consecutive pieces of `wsgi.input` which together are a
    prefix of its first `Content-Length` bytes -/
theorem C10_reads_prefix (cl : Nat) (src : Bytes) (ks : List (Option Nat)) :
    (Poor.Query.reqReads ⟨cl, src⟩ ks).1.flatten <+: src.take cl := by
  obtain ⟨h1, h2⟩ := reqReads_spec ⟨cl, src⟩ ks
  exact List.prefix_take_iff.2 ⟨⟨_, h1⟩, Nat.le.intro h2⟩

/-- ... and what is not returned is still in the stream: nothing is skipped or taken twice -/
theorem C10_reads_conserve (cl : Nat) (src : Bytes) (ks : List (Option Nat)) :
    (Poor.Query.reqReads ⟨cl, src⟩ ks).1.flatten ++ (Poor.Query.reqReads ⟨cl, src⟩ ks).2.src = src :=
  (Poor.Query.reqReads_spec ⟨cl, src⟩ ks).1

example : (Poor.Query.reqReads ⟨4, [1, 2, 3, 4, 5, 6]⟩ [some 1, none, some 9]).1 = [[1], [2, 3, 4], []] := by decide

/-! ### request headers -/

/-- a lookup in `req.headers` under any spelling of the name returns the value of the first environ
    entry whose header name equals it case-insensitively -/
theorem C10_headers (env : List (Str × Str)) (name : Str) :
    Headers.getItem (reqHeaders env) name =
      (env.find? fun kv => match envHeaderName kv.1 with
        | some n => Headers.lower n == Headers.key name
        | none => false).map (·.2) := by
  unfold Headers.getItem reqHeaders
  induction env with
  | nil => rfl
  | cons kv t ih =>
    simp only [List.filterMap_cons, List.find?_cons]
    cases h : envHeaderName kv.1 with
    | none => simpa using ih
    | some n =>
      simp only [Option.map_some, List.find?_cons]
      cases hk : (Headers.lower n == Headers.key name)
      · simpa using ih
      · simp

/-- spelling does not matter (C14): two names with the same lower-case form see the same value -/
theorem C10_headers_case (env : List (Str × Str)) (n n' : Str) (h : Headers.key n = Headers.key n') :
    Headers.getItem (reqHeaders env) n = Headers.getItem (reqHeaders env) n' := by
  unfold Headers.getItem; rw [h]

example : envHeaderName "HTTP_X_FOO_BAR".toList = some "X-Foo-Bar".toList := by decide +kernel
example : envHeaderName "CONTENT_TYPE".toList = some "Content-Type".toList := by decide +kernel
example : envHeaderName "http_x".toList = none := by decide +kernel

example : Headers.getItem (reqHeaders [("HTTP_X_FOO".toList, "v".toList)]) "x-FOO".toList = some "v".toList := by
  decide +kernel

/-- "a b"="é&" can be sent as `a+b=%c3%A9%26` -/
example : EncFields [("a b".toList, "é&".toList)] ["a+b=%c3%A9%26".toList] := by
  -- the literals are decoded once, here: else every constructor that has to match a piece of them decodes them again
  simp only [String.reduceToList]
  refine EncFields.cons _ _ _ _ ⟨['a', '+', 'b'], ['%', 'c', '3', '%', 'A', '9', '%', '2', '6'], ?_, ?_, rfl⟩
    EncFields.nil
  · exact Enc.cons 'a' _ ['a'] _ (EncC.raw 'a' (by decide))
      (Enc.cons ' ' _ ['+'] _ EncC.plus (Enc.cons 'b' _ ['b'] [] (EncC.raw 'b' (by decide)) Enc.nil))
  · refine Enc.cons 'é' _ ['%', 'c', '3', '%', 'A', '9'] _ (EncC.pct 'é' _ ?_)
      (Enc.cons '&' _ ['%', '2', '6'] [] (EncC.pct '&' _ ?_) Enc.nil)
    · exact PctEnc.cons 0xc3 'c' '3' _ _ ⟨by decide, by decide⟩
        (PctEnc.cons 0xa9 'A' '9' _ _ ⟨by decide, by decide⟩ PctEnc.nil)
    · exact PctEnc.cons 0x26 '2' '6' _ _ ⟨by decide, by decide⟩ PctEnc.nil

example : urlencode [("a b".toList, "x&y".toList), ("k".toList, [])] = "a+b=x%26y&k=".toList := by decide +kernel

example : kept false [("a".toList, []), ("a".toList, "1".toList)] = [("a".toList, "1".toList)] := by decide

end Poor.Props.C10
