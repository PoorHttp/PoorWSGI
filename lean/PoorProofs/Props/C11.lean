import PoorModel.Digest
import PoorProofs.Lemmas.Digest
/-
C11 - digest-protected endpoints run only for correctly authenticated requests.

Each stage of the gate is characterised by the condition it tests (the `_iff` lemmas), `check_credentials` by
one equation (`checkCredentials_eq`) and the gate by the classification of its outcomes (`gate_outcome`); the
statements of C11 are read off these.
-/
namespace Poor.Props.C11
open Poor Poor.Digest

variable (H Hn : Str → Str)

/-- the `response` value the server expects for the parsed fields `d` and the stored hash -/
def expectedResponse (app : App) (rq : Rq) (d : Dict) (stored : Str) : Str :=
  let g := fun k => (dget d k).getD []
  let hash1 := if isSess app.algorithm then H (colon [stored, g "nonce", g "cnonce"]) else stored
  let hash2 := H (colon [rq.method, g "uri"])
  if !app.qop.isEmpty then H (colon [hash1, g "nonce", g "nc", g "cnonce", g "qop", hash2])
  else H (colon [hash1, g "nonce", hash2])

/-- the specification of "correctly authenticated", field by field (RFC 7616 with the server's
    configuration): what must hold of the parsed credentials `d` for user `u` -/
structure Valid (app : App) (rq : Rq) (realm : Str) (reqUser : Option Str) (d : Dict) (u : Str) : Prop where
  schemeOk : dget d "type" = some "Digest".toList
  nonceOk : ∃ n, dget d "nonce" = some n ∧ Token.checkToken Hn n app.secret rq.agent app.timeout rq.now = true
  algOk : dget d "algorithm" = some app.algorithm
  opaqOk : dget d "opaque" = some app.opaq
  uriOk : ∃ uri u' full, dget d "uri" = some uri ∧ Query.unquote uri = some u' ∧ comparePath rq = some full ∧
          endsWith u' full = true
  qopOk : app.qop.isEmpty = false → dget d "qop" = some app.qop
  realmOk : dget d "realm" = some realm
  userOk : dget d "username" = some u
  requiredOk : ∀ n, reqUser = some n → n.isEmpty = false → u = n
  responseOk : ∃ stored, lookupUser app realm u = some stored ∧ stored.isEmpty = false ∧
          dget d "response" = some (expectedResponse H app rq d stored)
  fieldsOk : ∀ k ∈ required app, (dget d k).isSome = true

section stages
variable {H Hn} {app : App} {rq : Rq} {realm : Str} {reqUser : Option Str} {d : Dict}

theorem nonceValid_iff : nonceValid Hn app rq d = true ↔
    ∃ n, dget d "nonce" = some n ∧ Token.checkToken Hn n app.secret rq.agent app.timeout rq.now = true := by
  unfold nonceValid
  cases dget d "nonce" <;> simp

theorem nonceValid_isSome (h : nonceValid Hn app rq d = true) : (dget d "nonce").isSome = true := by
  obtain ⟨n, hn, -⟩ := nonceValid_iff.1 h
  rw [hn]
  rfl

theorem mem_required {k : String} : k ∈ required app ↔
    k = "uri" ∨ k = "response" ∨ (k = "nc" ∨ k = "cnonce") ∧ app.qop.isEmpty = false ∨
      k = "cnonce" ∧ app.qop.isEmpty = true ∧ isSess app.algorithm = true := by
  unfold required
  cases app.qop.isEmpty <;> cases isSess app.algorithm <;> simp

theorem preChecks_iff : preChecks app d = true ↔
    (∀ k ∈ required app, (dget d k).isSome = true) ∧ dget d "algorithm" = some app.algorithm ∧
      dget d "opaque" = some app.opaq := by
  simp [preChecks, and_assoc, Option.isSome_iff_ne_none]

theorem uriMatches_iff : uriMatches rq d = some true ↔
    ∃ uri u' full, dget d "uri" = some uri ∧ Query.unquote uri = some u' ∧ comparePath rq = some full ∧
      endsWith u' full = true := by
  unfold uriMatches
  cases dget d "uri" with
  | none => simp
  | some uri => cases h1 : Query.unquote uri <;> cases comparePath rq <;> simp [h1]

theorem userRequired_iff {u : Str} (hu : dget d "username" = some u) :
    userRequired reqUser d = true ↔ ∀ n, reqUser = some n → n.isEmpty = false → u = n := by
  cases reqUser with
  | none => simp [userRequired]
  | some n => cases n <;> simp [userRequired, hu]

theorem postChecks_iff : postChecks app realm reqUser d = true ↔
    (app.qop.isEmpty = false → dget d "qop" = some app.qop) ∧ dget d "realm" = some realm ∧
      userRequired reqUser d = true := by
  cases h : app.qop.isEmpty <;> simp [postChecks, h, and_assoc]

theorem storedHash_iff {s : Str} : storedHash app realm d = some s ↔
    ∃ u, dget d "username" = some u ∧ lookupUser app realm u = some s ∧ s.isEmpty = false := by
  unfold storedHash
  cases dget d "username" with
  | none => simp
  | some u =>
    cases hl : lookupUser app realm u with
    | none => simp [hl]
    | some t =>
      simp only [Option.bind_some, hl, Option.some.injEq, exists_eq_left']
      split <;> rename_i ht
      · exact ⟨nofun, fun ⟨e, hs⟩ => by rw [e, hs] at ht; cases ht⟩
      · exact ⟨fun e => Option.some.inj e ▸ ⟨rfl, by simpa using ht⟩, fun ⟨e, _⟩ => by rw [e]⟩

/-- once the required fields are there `check_response` cannot raise: it compares the `response`
    field with the expected value -/
theorem checkResponse_eq (stored : Str) (hn : (dget d "nonce").isSome = true)
    (hpre : preChecks app d = true) (hpost : postChecks app realm reqUser d = true) :
    checkResponse H app rq d stored = some (some (expectedResponse H app rq d stored) == dget d "response") := by
  have hq := (postChecks_iff.1 hpost).1
  have get : ∀ k ∈ required app, ∃ v, dget d k = some v :=
    fun k hk => Option.isSome_iff_exists.1 ((preChecks_iff.1 hpre).1 k hk)
  obtain ⟨n, hn⟩ := Option.isSome_iff_exists.1 hn
  obtain ⟨uri, hu⟩ := get "uri" (mem_required.2 (.inl rfl))
  obtain ⟨r, hr⟩ := get "response" (mem_required.2 (.inr (.inl rfl)))
  unfold checkResponse expectedResponse
  dsimp only
  -- with every field that is read put in, both sides compute to the same comparison
  rw [hn, hu, hr]
  cases hqe : app.qop.isEmpty
  · obtain ⟨nc, hnc⟩ := get "nc" (mem_required.2 (.inr (.inr (.inl ⟨.inl rfl, hqe⟩))))
    obtain ⟨c, hc⟩ := get "cnonce" (mem_required.2 (.inr (.inr (.inl ⟨.inr rfl, hqe⟩))))
    rw [hnc, hc, hq hqe]
    cases isSess app.algorithm <;> rfl
  · cases hs : isSess app.algorithm
    · rfl
    · obtain ⟨c, hc⟩ := get "cnonce" (mem_required.2 (.inr (.inr (.inr ⟨rfl, hqe, hs⟩))))
      rw [hc]
      rfl

/-- `check_credentials` in one equation: only the uri comparison can raise, the rest is a conjunction of tests -/
theorem checkCredentials_eq (hn : (dget d "nonce").isSome = true) :
    checkCredentials H app rq realm reqUser d =
      if preChecks app d = true then
        (uriMatches rq d).map fun m => m && postChecks app realm reqUser d &&
          (storedHash app realm d).any fun s => some (expectedResponse H app rq d s) == dget d "response"
      else some false := by
  unfold checkCredentials
  cases hpre : preChecks app d
  · rfl
  cases uriMatches rq d with
  | none => rfl
  | some m =>
    cases m
    · rfl
    cases hpost : postChecks app realm reqUser d
    · rfl
    cases storedHash app realm d with
    | none => rfl
    | some s => simp [checkResponse_eq s hn hpre hpost]

theorem checkCredentials_true_iff (hn : (dget d "nonce").isSome = true) :
    checkCredentials H app rq realm reqUser d = some true ↔
      preChecks app d = true ∧ uriMatches rq d = some true ∧ postChecks app realm reqUser d = true ∧
        ∃ s, storedHash app realm d = some s ∧ dget d "response" = some (expectedResponse H app rq d s) := by
  rw [checkCredentials_eq hn]
  cases preChecks app d
  · simp
  · simp [and_assoc, Option.any_eq_true, @eq_comm _ (some _) (dget d "response")]

theorem checkCredentials_none_iff (hn : (dget d "nonce").isSome = true) :
    checkCredentials H app rq realm reqUser d = none ↔ preChecks app d = true ∧ uriMatches rq d = none := by
  rw [checkCredentials_eq hn]
  cases preChecks app d <;> simp

/-- the three outcomes of the gate that are not a plain refusal -/
theorem gate_outcome :
    (∀ u, gate H Hn app rq realm reqUser (some d) = .run u ↔
      dget d "type" = some "Digest".toList ∧ nonceValid Hn app rq d = true ∧
        checkCredentials H app rq realm reqUser d = some true ∧ dget d "username" = some u) ∧
    (gate H Hn app rq realm reqUser (some d) = .unauthorized true ↔
      dget d "type" = some "Digest".toList ∧ nonceValid Hn app rq d = false) ∧
    (gate H Hn app rq realm reqUser (some d) = .error ↔
      dget d "type" = some "Digest".toList ∧ nonceValid Hn app rq d = true ∧
        (checkCredentials H app rq realm reqUser d = none ∨
          checkCredentials H app rq realm reqUser d = some true ∧ dget d "username" = none)) := by
  simp only [gate]
  -- the scheme name stays a variable: with the literal in place every `simp` below evaluates `"Digest".toList`,
  -- slowly, after which `ht` no longer rewrites and goals stay open
  generalize some "Digest".toList = dg
  by_cases ht : dget d "type" = dg
  · cases nonceValid Hn app rq d
    · simp [ht]
    · cases checkCredentials H app rq realm reqUser d with
      | none => simp [ht]
      | some b => cases b <;> cases dget d "username" <;> simp [ht]
  · simp [ht]

/-- an exception escapes the gate exactly when the `uri` field or the query string cannot be decoded -/
theorem gate_error_iff : gate H Hn app rq realm reqUser (some d) = .error ↔
    dget d "type" = some "Digest".toList ∧ nonceValid Hn app rq d = true ∧ preChecks app d = true ∧
      uriMatches rq d = none := by
  rw [gate_outcome.2.2]
  refine and_congr_right fun _ => and_congr_right fun hnv => ?_
  have hn := nonceValid_isSome hnv
  rw [checkCredentials_none_iff hn, checkCredentials_true_iff hn]
  refine ⟨fun h => h.resolve_right ?_, .inl⟩
  -- credentials that check out name a user
  rintro ⟨⟨-, -, -, s, hs, -⟩, hu⟩
  obtain ⟨u, hu', -⟩ := storedHash_iff.1 hs
  rw [hu] at hu'; cases hu'

end stages

/-- **soundness and completeness of the gate in one statement**: the protected endpoint runs, as
    user `u`, exactly when the parsed credentials are valid for `u` -/
theorem gate_run_iff (app : App) (rq : Rq) (realm : Str) (reqUser : Option Str) (d : Dict) (u : Str) :
    gate H Hn app rq realm reqUser (some d) = .run u ↔ Valid H Hn app rq realm reqUser d u := by
  rw [gate_outcome.1]
  constructor
  · rintro ⟨ht, hnv, hc, hu⟩
    obtain ⟨hpre, hum, hpost, s, hs, hr⟩ := (checkCredentials_true_iff (nonceValid_isSome hnv)).1 hc
    obtain ⟨hf, ha, ho⟩ := preChecks_iff.1 hpre
    obtain ⟨hq, hrealm, hur⟩ := postChecks_iff.1 hpost
    obtain ⟨u', hu', hl, hne⟩ := storedHash_iff.1 hs
    cases hu.symm.trans hu'
    exact ⟨ht, nonceValid_iff.1 hnv, ha, ho, uriMatches_iff.1 hum, hq, hrealm, hu, (userRequired_iff hu).1 hur, ⟨s, hl, hne, hr⟩, hf⟩
  · intro v
    obtain ⟨s, hl, hne, hr⟩ := v.responseOk
    have hnv := nonceValid_iff.2 v.nonceOk
    exact ⟨v.schemeOk, hnv,
      (checkCredentials_true_iff (nonceValid_isSome hnv)).2
        ⟨preChecks_iff.2 ⟨v.fieldsOk, v.algOk, v.opaqOk⟩, uriMatches_iff.2 v.uriOk,
          postChecks_iff.2 ⟨v.qopOk, v.realmOk, (userRequired_iff v.userOk).2 v.requiredOk⟩,
          s, storedHash_iff.2 ⟨u, v.userOk, hl, hne⟩, hr⟩, v.userOk⟩

/-- a request without an Authorization header never reaches the endpoint: fresh challenge -/
theorem C11_no_header (app : App) (rq : Rq) (realm : Str) (reqUser : Option Str) :
    gate H Hn app rq realm reqUser none = .unauthorized false := rfl

/-- **soundness**: whatever the header holds, if the endpoint runs then the credentials are valid
    for the user attached to the request -/
theorem C11_sound (app : App) (rq : Rq) (realm : Str) (reqUser : Option Str) (d : Dict) (u : Str)
    (h : gate H Hn app rq realm reqUser (some d) = .run u) : Valid H Hn app rq realm reqUser d u :=
  (gate_run_iff H Hn app rq realm reqUser d u).1 h

/-- every other request: if the credentials are not valid for any user, the endpoint does not run -/
theorem C11_reject (app : App) (rq : Rq) (realm : Str) (reqUser : Option Str) (hdr : Option Dict)
    (h : ∀ d u, hdr = some d → ¬ Valid H Hn app rq realm reqUser d u) :
    ∀ u, gate H Hn app rq realm reqUser hdr ≠ .run u := by
  intro u hg
  cases hdr with
  | none => cases hg
  | some d => exact h d u rfl ((gate_run_iff H Hn app rq realm reqUser d u).1 hg)

/-- stale is reported exactly for Digest credentials whose nonce does not verify - in particular
    never while the nonce is current, and always when only the nonce is out of date -/
theorem C11_stale_iff (app : App) (rq : Rq) (realm : Str) (reqUser : Option Str) (d : Dict) :
    gate H Hn app rq realm reqUser (some d) = .unauthorized true ↔
      (dget d "type" = some "Digest".toList ∧ nonceValid Hn app rq d = false) :=
  gate_outcome.2.1

/-- **completeness**: for every configuration (algorithm, qop, timeout, user table), every method and
    URI, a client that holds a registered user's password and a nonce that verifies now, and
    computes its credentials as RFC 7616 prescribes, reaches the endpoint with its user name
    attached - for any hash function -/
theorem C11_complete (app : App) (rq : Rq) (c : Client) (reqUser : Option Str)
    (hreg : lookupUser app c.realm c.user = some (a1 H c)) (hne : (a1 H c).isEmpty = false)
    (hnonce : Token.checkToken Hn c.nonce app.secret rq.agent app.timeout rq.now = true)
    (huri : ∃ u full, Query.unquote c.uri = some u ∧ comparePath rq = some full ∧ endsWith u full = true)
    (hreq : ∀ n, reqUser = some n → n.isEmpty = false → c.user = n) :
    gate H Hn app rq c.realm reqUser (some (clientDict H app rq.method c)) = .run c.user := by
  obtain ⟨g1, g2, g3, g4, g5, g6, g7, g8, g9, g10, g11⟩ := clientDict_get H app rq.method c
  obtain ⟨u, full, hu1, hu2, hu3⟩ := huri
  refine (gate_run_iff H Hn app rq c.realm reqUser _ c.user).2
    ⟨g11, ⟨c.nonce, g3, hnonce⟩, g5, g7, ⟨c.uri, u, full, g4, hu1, hu2, hu3⟩, fun _ => g8, g2, g1, hreq,
      ⟨a1 H c, hreg, hne, ?_⟩, fun k hk => ?_⟩
  · rw [g6]
    unfold expectedResponse clientResponse
    simp only [g3, g4, g8, g9, g10, Option.getD_some]
  · rcases mem_required.1 hk with rfl | rfl | ⟨rfl | rfl, -⟩ | ⟨rfl, -⟩ <;>
      simp only [g4, g6, g9, g10, Option.isSome_some]

/-- **completeness from the header text**: the Authorization header itself - tokenized by the
    model of `RE_AUTHORIZATION`, unquoted, transcoded - lets the client in.  (Values must be
    non-empty and free of `"` in their wire form, as RFC 7616 quoted strings without escapes are.) -/
theorem C11_complete_wire (app : App) (rq : Rq) (c : Client) (reqUser : Option Str)
    (hv : ∀ kv ∈ wireFields H app rq.method c, kv.2 ≠ [] ∧ '"' ∉ kv.2)
    (hreg : lookupUser app c.realm c.user = some (a1 H c)) (hne : (a1 H c).isEmpty = false)
    (hnonce : Token.checkToken Hn c.nonce app.secret rq.agent app.timeout rq.now = true)
    (huri : ∃ u full, Query.unquote c.uri = some u ∧ comparePath rq = some full ∧ endsWith u full = true)
    (hreq : ∀ n, reqUser = some n → n.isEmpty = false → c.user = n) :
    (authDict (renderAuth (wireFields H app rq.method c))).map
        (fun d => gate H Hn app rq c.realm reqUser (some d)) = some (.run c.user) := by
  rw [C11_wire H app rq.method c hv]
  simp only [Option.map_some]
  rw [C11_complete H Hn app rq c reqUser hreg hne hnonce huri hreq]

theorem endsWith_append (pre s : Str) : endsWith (pre ++ s) s = true := by
  unfold endsWith
  simp

/-- **known finding (C11, key uri-suffix)**: credentials computed for `pre ++ path` - any prefix -
    run the endpoint at `path`.  The full soundness claim "wrong URI never runs the endpoint" is
    therefore false of the code; `C11_sound` states what does hold (the uri ends with the path). -/
theorem C11_uri_suffix_accepted (app : App) (rq : Rq) (c : Client) (pre : Str)
    (hq : rq.query = []) (huri : c.uri = pre ++ rq.path) (hpct : c.uri.contains '%' = false)
    (hreg : lookupUser app c.realm c.user = some (a1 H c)) (hne : (a1 H c).isEmpty = false)
    (hnonce : Token.checkToken Hn c.nonce app.secret rq.agent app.timeout rq.now = true) :
    gate H Hn app rq c.realm none (some (clientDict H app rq.method c)) = .run c.user := by
  apply C11_complete H Hn app rq c none hreg hne hnonce
  · refine ⟨c.uri, rq.path, ?_, ?_, ?_⟩
    · unfold Query.unquote; rw [hpct]; rfl
    · simp [comparePath, hq, HeaderValue.strip]
    · rw [huri]; exact endsWith_append pre rq.path
  · intro n hn; cases hn

theorem colon_cons_cons (x a : Str) (t : List Str) : colon (x :: a :: t) = x ++ ':' :: colon (a :: t) := by
  simp [colon, List.intercalate_cons_cons]

theorem colon_head_inj {x x' a a' : Str} {t t' : List Str} (hx : ':' ∉ x) (hx' : ':' ∉ x')
    (h : colon (x :: a :: t) = colon (x' :: a' :: t')) : x = x' := by
  rw [colon_cons_cons, colon_cons_cons] at h
  exact List.append_cons_left_inj hx hx' h

/-- a collision of `H`: two different texts with the same digest -/
def Collision : Prop := ∃ a b : Str, a ≠ b ∧ H a = H b

/-- two different secrets that lead to the same expected response exhibit a collision of the hash
    (digests are hex strings: they contain no `:`) -/
theorem expectedResponse_collision (hH : ∀ s, ':' ∉ H s)
    (app : App) (rq : Rq) (d : Dict) (s s' : Str) (hs : ':' ∉ s) (hs' : ':' ∉ s') (hne : s ≠ s')
    (h : expectedResponse H app rq d s = expectedResponse H app rq d s') : Collision H := by
  -- were there no collision, `H` could be undone, and so could every step from the secret to the response
  refine Classical.byContradiction fun hno => hne ?_
  have head : ∀ {x x' a : Str} {t : List Str}, ':' ∉ x → ':' ∉ x' →
      H (colon (x :: a :: t)) = H (colon (x' :: a :: t)) → x = x' := fun hx hx' e =>
    colon_head_inj hx hx' (Classical.byContradiction fun hn => hno ⟨_, _, hn, e⟩)
  unfold expectedResponse at h
  cases hsess : isSess app.algorithm <;> cases hq : app.qop.isEmpty <;>
    simp only [hsess, hq, Bool.not_false, Bool.not_true, if_true, if_false, Bool.false_eq_true] at h
  · exact head hs hs' h
  · exact head hs hs' h
  · exact head hs hs' (head (hH _) (hH _) h)
  · exact head hs hs' (head (hH _) (hH _) h)

/-- **wrong password / foreign secret**: if the response was computed from any secret other than the
    one stored for the named user (another password, another user's or realm's hash) and the
    endpoint nevertheless runs, a collision of the hash function has been produced.  (No
    injectivity is assumed - no hash with a fixed digest length is injective - this is the usual
    reduction: breaking the gate is as hard as finding a collision.) -/
theorem C11_wrong_secret_collision (hcol : ∀ s, ':' ∉ H s)
    (app : App) (rq : Rq) (realm : Str) (reqUser : Option Str) (d : Dict) (u u' stored other : Str)
    (huser : dget d "username" = some u) (hst : lookupUser app realm u = some stored)
    (hsc : ':' ∉ stored) (hoc : ':' ∉ other) (hne : other ≠ stored)
    (hresp : dget d "response" = some (expectedResponse H app rq d other))
    (hg : gate H Hn app rq realm reqUser (some d) = .run u') : Collision H := by
  have v := C11_sound H Hn app rq realm reqUser d u' hg
  cases Option.some.inj (huser.symm.trans v.userOk)
  obtain ⟨stored', h1, -, h3⟩ := v.responseOk
  cases Option.some.inj (hst.symm.trans h1)
  exact expectedResponse_collision H hcol app rq d other stored hoc hsc hne (Option.some.inj (hresp.symm.trans h3))

/-- the gate never lets an exception escape (no 500), whatever the header holds - as long as the
    percent-escapes involved are UTF-8 (the part of `unquote` the model covers) -/
theorem C11_no_error (app : App) (rq : Rq) (realm : Str) (reqUser : Option Str) (hdr : Option Dict)
    (hdec : ∀ d uri, hdr = some d → dget d "uri" = some uri → (Query.unquote uri).isSome = true)
    (hq : (comparePath rq).isSome = true) :
    gate H Hn app rq realm reqUser hdr ≠ .error := by
  cases hdr with
  | none => exact nofun
  | some d =>
    rw [Ne, gate_error_iff]
    rintro ⟨-, -, hpre, hum⟩
    obtain ⟨uri, hu⟩ := Option.isSome_iff_exists.1 ((preChecks_iff.1 hpre).1 "uri" (mem_required.2 (.inl rfl)))
    obtain ⟨u', hu'⟩ := Option.isSome_iff_exists.1 (hdec d uri rfl hu)
    obtain ⟨full, hf⟩ := Option.isSome_iff_exists.1 hq
    simp [uriMatches, hu, hu', hf] at hum

def H0 (s : Str) : Str := 'h' :: s.map fun c => if c = ':' then ';' else c
def c0 : Client where
  user := "u".toList
  realm := "Z".toList
  password := "pw".toList
  nonce := H0 (Token.tokenText "k".toList none "UA".toList)
  cnonce := "c".toList
  nc := "1".toList
  uri := "/x/p".toList
def app0 : App where
  algorithm := "MD5-sess".toList
  qop := "auth".toList
  opaq := "o".toList
  users := [(("Z".toList, "u".toList), a1 H0 c0)]
  secret := "k".toList
  timeout := none
def rq0 : Rq where
  method := "GET".toList
  path := "/p".toList
  query := []
  agent := "UA".toList
  now := 5

/-- the hypotheses of `C11_complete` are satisfiable: a concrete client, application and request -/
example : gate H0 H0 app0 rq0 "Z".toList none (some (clientDict H0 app0 rq0.method c0)) = .run "u".toList := by
  apply C11_complete H0 H0 app0 rq0 c0 none
  · decide
  · decide
  · decide
  · refine ⟨"/x/p".toList, "/p".toList, ?_, ?_, ?_⟩
    · unfold Query.unquote; rfl
    · decide
    · decide
  · intro n hn; cases hn

/-- ... and so is the digest hypothesis of the collision reduction -/
example : ∀ s, ':' ∉ H0 s := by
  intro s h
  simp only [H0, List.mem_cons, List.mem_map] at h
  rcases h with h | ⟨c, _, hc⟩
  · exact absurd h (by decide)
  · split at hc <;> simp_all

end Poor.Props.C11
