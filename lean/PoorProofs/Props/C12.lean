import PoorModel.Static
import PoorProofs.Props.C19
/-
C12 - static serving never leaves the document root.
-/
namespace Poor.Props.C12
open Poor Poor.Static

/-- a path component that cannot move the lookup: not empty, not `.`, not `..`, no slash -/
def Clean (c : Str) : Prop := c ≠ [] ∧ c ≠ ['.'] ∧ c ≠ dotdot ∧ '/' ∉ c

theorem splitSlash_no_slash (s : Str) : ∀ c ∈ splitSlash s, '/' ∉ c := by
  induction s with
  | nil => exact List.forall_mem_cons.mpr ⟨List.not_mem_nil, nofun⟩
  | cons x rest ih =>
    rw [splitSlash]
    split
    · exact List.forall_mem_cons.mpr ⟨List.not_mem_nil, ih⟩
    · rename_i hx
      -- `x` joins the first component of the rest
      have hx' {h : Str} (hh : '/' ∉ h) : '/' ∉ x :: h :=
        fun hm => (List.mem_cons.mp hm).elim (fun e => hx e.symm) hh
      split
      · rename_i h t heq
        rw [heq, List.forall_mem_cons] at ih
        exact List.forall_mem_cons.mpr ⟨hx' ih.1, ih.2⟩
      · exact List.forall_mem_cons.mpr ⟨hx' List.not_mem_nil, nofun⟩

/-- for an absolute path the component loop only ever stacks clean components -/
theorem stepComp_clean (stack : List Str) (comp : Str) (hs : ∀ c ∈ stack, Clean c) (hc : '/' ∉ comp) :
    ∀ c ∈ stepComp true stack comp, Clean c := by
  unfold stepComp
  split
  · exact hs
  · rename_i h1
    split
    · rename_i h2
      have hnd : comp ≠ dotdot := by
        rcases h2 with h | h | h
        · exact h
        · simp at h
        · -- the top of a clean stack is never `..`
          exact absurd rfl (hs dotdot (List.mem_of_mem_head? h)).2.2.1
      exact List.forall_mem_cons.mpr ⟨⟨fun e => h1 (.inl e), fun e => h1 (.inr e), hnd, hc⟩, hs⟩
    · exact fun c hcm => hs c (List.mem_of_mem_tail hcm)

theorem foldl_clean (comps : List Str) (stack : List Str) (hs : ∀ c ∈ stack, Clean c)
    (hc : ∀ c ∈ comps, '/' ∉ c) : ∀ c ∈ comps.foldl (stepComp true) stack, Clean c :=
  List.foldlRecOn comps _ hs fun stack hs x hx => stepComp_clean stack x hs (hc x hx)

theorem lstrip_head (p : Str) : (lstripSlash p).head? ≠ some '/' := fun h => by
  have := List.head?_dropWhile_not (· = '/') p
  rw [show p.dropWhile _ = lstripSlash p from rfl, h] at this
  simp at this

theorem initialSlashes_one {s : Str} (h : s.head? ≠ some '/') : initialSlashes ('/' :: s) = 1 := by
  unfold initialSlashes
  split
  · rfl
  · rename_i heq; cases heq; exact absurd rfl h
  · rfl
  · rename_i hno; exact absurd rfl (hno _)

/-- **lexical confinement.** For every document root and every request path whatsoever (dot
    segments, repeated or missing leading slashes, NUL, non-ASCII, names that merely extend
    the root's name), the file consulted is `root ++ "/" ++ c1 ++ "/" ++ ... ++ cn` where every
    `ci` is a clean component (non-empty, not `.`, not `..`, no slash) - or `root ++ "/"` itself.
    Nothing outside the root can be named this way. -/
theorem C12_confined (root path : Str) :
    ∃ comps : List Str, (∀ c ∈ comps, Clean c) ∧ rfile root path = root ++ '/' :: joinSlash comps := by
  unfold rfile normpath
  have hne : ('/' :: lstripSlash path) ≠ [] := by simp
  simp only [hne, if_false]
  rw [initialSlashes_one (lstrip_head path)]
  simp only [show ((1 : Nat) != 0) = true from rfl, List.replicate_one, List.singleton_append]
  refine ⟨((splitSlash ('/' :: lstripSlash path)).foldl (stepComp true) []).reverse, ?_, ?_⟩
  · intro c hc
    exact foldl_clean _ [] (by intro c h; cases h) (splitSlash_no_slash _) c (List.mem_reverse.mp hc)
  · simp

/-- the listing shows exactly the entries that are not hidden (`.x`), not backups (`x~`) and
    readable; the parent link appears only below the document root -/
theorem C12_listing (names : List Str) (readable : Str → Bool) (below : Bool) (item : Str) :
    item ∈ visible names readable below ↔
      (item ∈ names ∨ (below = true ∧ item = dotdot)) ∧
      (!(item.head? = some '.' && (item.drop 1).head? != some '.') &&
       !(item.getLast? = some '~') && readable item) = true := by
  unfold visible
  rw [List.mem_filter]
  refine and_congr_left fun _ => ?_
  cases below <;> simp

/-- files are served for GET and HEAD only, and only when the consulted path is a readable
    regular file; a directory is listed only with indexing on, otherwise 403 -/
theorem C12_gate (r : Route.Reg) (env : Route.Env) (bit : Nat) (path : Str) :
    (Route.select r env bit path = .file →
      env.docRoot = true ∧ env.fsFile = true ∧ (bit &&& (Gen.State.METHOD_HEAD ||| Gen.State.METHOD_GET)) ≠ 0) ∧
    (Route.select r env bit path = .dirIndex → env.docRoot = true ∧ env.index = true ∧ env.fsDir = true) := by
  have := C19.select_needs r env bit path
  constructor <;> intro h <;> rw [h] at this <;> exact this

/-- non-vacuity: a path that climbs out lexically is confined to the root -/
example : rfile "/srv/site".toList "../../etc/passwd".toList = "/srv/site/etc/passwd".toList := by decide +kernel

example : rfile "/srv/site".toList "a/./b/../c".toList = "/srv/site/a/c".toList := by decide +kernel

/-- the antecedents of `C12_gate` are reachable -/
example : Route.select {} ⟨true, true, true, false, false, false⟩ 2 "/x".toList = .file := by decide
example : Route.select {} ⟨true, true, false, true, true, false⟩ 2 "/d".toList = .dirIndex := by decide

end Poor.Props.C12
