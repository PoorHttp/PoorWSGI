import PoorModel.Session
import PoorProofs.Lemmas.Base64
import PoorProofs.Props.JsonCodec
/-
C13 - session cookies restore the stored data and reject foreign ones.
-/
namespace Poor.Props.C13
open Poor Poor.Session

theorem hiddenFrom_involutive (key : Bytes) (i : Nat) (t : Bytes) :
    hiddenFrom key i (hiddenFrom key i t) = t := by
  induction t generalizing i with
  | nil => rfl
  | cons b rest ih =>
    simp only [hiddenFrom, ih]
    congr 1
    rw [UInt8.xor_assoc, UInt8.xor_self, UInt8.xor_zero]

/-- the XOR stream cipher is its own inverse, for every key and every text -/
theorem hidden_involutive (key t : Bytes) : hidden key (hidden key t) = t :=
  hiddenFrom_involutive key 0 t

theorem hiddenFrom_getElem? (key : Bytes) (j : Nat) (t : Bytes) (i : Nat) :
    (hiddenFrom key j t)[i]? = t[i]?.map (· ^^^ key.getD ((j + i) % key.length) 0) := by
  induction t generalizing j i with
  | nil => rfl
  | cons b rest ih =>
    cases i with
    | zero => rfl
    | succ i =>
      simp only [hiddenFrom, List.getElem?_cons_succ]
      rw [ih, show j + 1 + i = j + (i + 1) by omega]

/-- the round-trip laws of the standard-library pieces (hypotheses, never axioms) -/
structure Laws {Data : Type} (c : Codec Data) : Prop where
  json : ∀ d, c.loads (c.dumps d) = some d
  zip : ∀ x, c.decompress (c.compress x) = some x
  b64 : ∀ x, c.b64dec (c.b64enc x) = some x

/-- loading what `write()` stored: the JSON law is needed at `d` only, so the concrete codec (whose `loads ∘ dumps`
    is not the identity everywhere, `JsonCodec.surrogate_pair_merged`) is an instance as well -/
theorem loadValue_writeValue {Data : Type} (c : Codec Data) (key : Bytes) (d : Data)
    (hj : c.loads (c.dumps d) = some d) (hz : ∀ x, c.decompress (c.compress x) = some x)
    (hb : ∀ x, c.b64dec (c.b64enc x) = some x) (hd : c.isDict d = true)
    (hne : (writeValue c key d).isEmpty = false) :
    loadValue c key (writeValue c key d) = .ok (some d) := by
  unfold loadValue
  rw [hne]
  simp only [Bool.false_eq_true, if_false]
  unfold writeValue
  simp only [hb, hz, hidden_involutive, hj, hd, if_true]

/-- **round trip.** For every data value, every secret (key stream) and every codec obeying
    the round-trip laws, loading the cookie value that `write()` produced restores the data. -/
theorem C13_roundtrip {Data : Type} (c : Codec Data) (hl : Laws c) (key : Bytes) (d : Data)
    (hd : c.isDict d = true) (hne : (writeValue c key d).isEmpty = false) :
    loadValue c key (writeValue c key d) = .ok (some d) :=
  loadValue_writeValue c key d (hl.json d) hl.zip hl.b64 hd hne

/-- the codec with base64 made concrete (the C loops of `binascii`): only JSON and the compression module
    remain parameters -/
def withBase64 {Data : Type} (c : Codec Data) : Codec Data :=
  { c with b64enc := Poor.Base64.encode, b64dec := Poor.Base64.decode }

/-- **round trip with base64 proved, not assumed** (`Poor.Base64.decode_encode`) -/
theorem C13_roundtrip_b64 {Data : Type} (c : Codec Data)
    (hjson : ∀ d, c.loads (c.dumps d) = some d) (hzip : ∀ x, c.decompress (c.compress x) = some x)
    (key : Bytes) (d : Data) (hd : c.isDict d = true)
    (hne : (writeValue (withBase64 c) key d).isEmpty = false) :
    loadValue (withBase64 c) key (writeValue (withBase64 c) key d) = .ok (some d) :=
  C13_roundtrip (withBase64 c) ⟨hjson, hzip, Poor.Base64.decode_encode⟩ key d hd hne

/-- **round trip with JSON and base64 proved**: for every dictionary of well-formed JSON values, every key stream
    and every compression module that inverts itself, the cookie value restores an equal dictionary. -/
theorem C13_roundtrip_json (compress : Bytes → Bytes) (decompress : Bytes → Option Bytes)
    (hzip : ∀ x, decompress (compress x) = some x) (key : Bytes) (kvs : List (Poor.Json.CpStr × Poor.Json.J))
    (hok : Poor.Json.JOk (.obj kvs))
    (hne : (writeValue (jsonCodec compress decompress) key (.obj kvs)).isEmpty = false) :
    loadValue (jsonCodec compress decompress) key (writeValue (jsonCodec compress decompress) key (.obj kvs))
      = .ok (some (.obj kvs)) := by
  refine loadValue_writeValue (jsonCodec compress decompress) key (.obj kvs) ?_ hzip Poor.Base64.decode_encode rfl hne
  -- the codec's fields first: matched against `(jsonCodec ..).loads ((jsonCodec ..).dumps _)` as it stands, the
  -- unifier unfolds `Json.loadBytes` before it reduces the projections, three times over
  dsimp only [jsonCodec]
  exact JsonCodec.loadBytes_dumpBytes _ hok

theorem drun_data {Data : Type} (c : Codec Data) (key : Bytes) (s : DSt Data) (ops : List (DOp Data)) :
    (drun c key s ops).data = lastData s.data ops := by
  induction ops generalizing s with
  | nil => rfl
  | cons op ops ih =>
    simp only [drun, List.foldl_cons] at ih ⊢
    rw [ih]
    cases op <;> rfl

/-- **the cookie a session emits is the cookie of its current data, at any point of its life**: after any history
    of assignments, writes, earlier `header()` calls and `destroy()`, the value `header()` puts into the cookie loads
    back to the data the session holds at that moment - not to what it held when a value was first written. -/
theorem C13_header_current {Data : Type} (c : Codec Data) (hl : Laws c) (key : Bytes) (s0 : DSt Data)
    (ops : List (DOp Data)) (hd : c.isDict (lastData s0.data ops) = true)
    (hne : (writeValue c key (lastData s0.data ops)).isEmpty = false) :
    loadValue c key (drun c key s0 (ops ++ [.header])).value = .ok (some (lastData s0.data ops)) := by
  have hv : (drun c key s0 (ops ++ [.header])).value = writeValue c key (drun c key s0 ops).data := by
    simp only [drun, List.foldl_append, List.foldl_cons, List.foldl_nil, dstep]
  rw [hv, drun_data]
  exact C13_roundtrip c hl key _ hd hne

/-- the cookie value is empty only for an empty compressed payload (which no compression module produces) -/
theorem C13_value_nonempty {Data : Type} (c : Codec Data) (key : Bytes) (d : Data)
    (h : c.compress (hidden key (c.dumps d)) ≠ []) : (writeValue (withBase64 c) key d).isEmpty = false :=
  (Poor.Base64.encode_isEmpty _).trans (List.isEmpty_eq_false_iff.mpr h)

/-- **errors.** Whatever string is loaded - foreign, truncated, arbitrary - the outcome is the
    restored dictionary, "no data", or the session error; no other failure exists -/
theorem C13_errors {Data : Type} (c : Codec Data) (key : Bytes) (raw : Str) :
    loadValue c key raw = .ok none ∨ (∃ d, loadValue c key raw = .ok (some d) ∧ c.isDict d = true)
      ∨ loadValue c key raw = .error () := by
  unfold loadValue
  split
  · exact Or.inl rfl
  · split
    · exact Or.inr (Or.inr rfl)
    · split
      · exact Or.inr (Or.inr rfl)
      · split
        · exact Or.inr (Or.inr rfl)
        · split
          · rename_i d _ hd; exact Or.inr (Or.inl ⟨d, rfl, hd⟩)
          · exact Or.inr (Or.inr rfl)

/-- **foreign secret (partial).** Under another key stream that differs at some position of
    the hidden text, the de-hidden plaintext differs from the original at that position: the
    JSON text the loader sees is not the text that was stored.  (That the *parsed* data
    differ as well is not provable without a model of JSON; the harness checks it.) -/
theorem C13_reject_partial (key key' : Bytes) (t : Bytes) (i : Nat) (hi : i < t.length)
    (hk : key.getD (i % key.length) 0 ≠ key'.getD (i % key'.length) 0) :
    (hidden key' (hidden key t))[i]? ≠ t[i]? := by
  unfold hidden
  rw [hiddenFrom_getElem?, hiddenFrom_getElem?, List.getElem?_eq_getElem hi]
  simp only [Nat.zero_add, Option.map_some, ne_eq, Option.some.injEq]
  intro heq
  -- `b ^ k ^ k' = b` cancels to `k ^ k' = 0`
  have h := congrArg (fun x => t[i] ^^^ x) heq
  simp only [UInt8.xor_self] at h
  rw [← UInt8.xor_assoc, ← UInt8.xor_assoc, UInt8.xor_self, UInt8.zero_xor] at h
  exact hk (UInt8.xor_eq_zero_iff.mp h)

/-! ### attributes -/

/-- a destroyed session: the configuration itself is now "expired" -/
def Destroyed (s : St) : Prop :=
  s.cfg.expires = -1 ∧ (s.cfg.maxAge = none ∨ s.cfg.maxAge = some (-1)) ∧
  s.attrs.expires = some (-1) ∧ (s.attrs.maxAge = none ∨ s.attrs.maxAge = some (-1))

/-- the hypothesis cannot go: with no Max-Age configured, `destroy()` leaves a Max-Age the cookie carries as it is -/
theorem destroy_destroyed (s : St) (h : s.attrs.maxAge = none ∨ s.cfg.maxAge ≠ none) : Destroyed (destroy s) := by
  obtain ⟨⟨e, m, dom, path, sec, ss⟩, a⟩ := s
  unfold destroy Destroyed
  cases m with
  | none =>
    have ha : a.maxAge = none := h.resolve_right fun hn => hn rfl
    cases sec <;> exact ⟨rfl, .inl rfl, rfl, .inl ha⟩
  | some m => cases sec <;> exact ⟨rfl, .inr rfl, rfl, .inr rfl⟩

/-- `write()` field by field: HttpOnly, and each configured attribute over what the cookie carried -/
theorem write_attrs (s : St) : (write s).attrs =
    { httpOnly := true
      secure := s.cfg.secure || s.attrs.secure
      domain := if s.cfg.domain.isEmpty then s.attrs.domain else some s.cfg.domain
      path := if s.cfg.path.isEmpty then s.attrs.path else some s.cfg.path
      sameSite := s.cfg.sameSite.or s.attrs.sameSite
      expires := if s.cfg.expires ≠ 0 then some s.cfg.expires else s.attrs.expires
      maxAge := s.cfg.maxAge.or s.attrs.maxAge } := by
  obtain ⟨⟨e, m, dom, path, sec, ss⟩, a⟩ := s
  unfold write
  -- with the decision of `e ≠ 0` a variable too, every `if` and `match` of `write` reduces once its test is a
  -- constructor: the 2^6 cases are closed by `rfl`
  generalize (instDecidableNot : Decidable (e ≠ 0)) = dec
  cases dec <;> cases dom.isEmpty <;> cases path.isEmpty <;> cases sec <;> cases ss <;> cases m <;> rfl

theorem write_keeps_destroyed (s : St) (h : Destroyed s) : Destroyed (write s) := by
  obtain ⟨h1, h2, h3, h4⟩ := h
  refine ⟨h1, h2, ?_, ?_⟩
  · rw [write_attrs]
    show (if s.cfg.expires ≠ 0 then some s.cfg.expires else s.attrs.expires) = some (-1)
    rw [h1]; rfl
  · rw [write_attrs]
    show s.cfg.maxAge.or s.attrs.maxAge = none ∨ s.cfg.maxAge.or s.attrs.maxAge = some (-1)
    rcases h2 with h2 | h2 <;> rw [h2]
    · exact h4
    · exact .inr rfl

theorem step_keeps_destroyed_of_ne (s : St) (op : Op) (h : Destroyed s) (hnd : op ≠ .destroy) :
    Destroyed (step s op) := by
  cases op with
  | load => exact h
  | write => exact write_keeps_destroyed s h
  | header => exact write_keeps_destroyed s h
  | destroy => exact absurd rfl hnd

theorem step_keeps_destroyed (s : St) (op : Op) (h : Destroyed s)
    (hm : s.attrs.maxAge = none ∨ s.cfg.maxAge ≠ none) : Destroyed (step s op) := by
  by_cases hd : op = .destroy
  · rw [hd]; exact destroy_destroyed s hm
  · exact step_keeps_destroyed_of_ne s op h hd

/-- **destroyed stays destroyed.** After `destroy()`, whatever sequence of load / write /
    header calls follows, every `header()` emits an already-expired cookie: Expires in the
    past and, when Max-Age is present, Max-Age ≤ 0 -/
theorem C13_destroyed_expired (s : St) (h : Destroyed s) (ops : List Op) (hnd : ∀ op ∈ ops, op ≠ .destroy) :
    (headerAttrs (ops.foldl step s)).expires = some (-1) ∧
    ((headerAttrs (ops.foldl step s)).maxAge = none ∨ (headerAttrs (ops.foldl step s)).maxAge = some (-1)) := by
  have hfold : Destroyed (ops.foldl step s) :=
    List.foldlRecOn ops step h fun acc hacc op hop => step_keeps_destroyed_of_ne acc op hacc (hnd op hop)
  have := write_keeps_destroyed _ hfold
  exact ⟨this.2.2.1, this.2.2.2⟩

/-- **configured attributes.** A fresh session's header carries HttpOnly and exactly the
    configured Path, Domain, Secure, SameSite, Expires and Max-Age -/
theorem C13_attrs (cfg : Cfg) :
    let a := headerAttrs (St.init cfg)
    a.httpOnly = true ∧
    a.domain = (if cfg.domain.isEmpty then none else some cfg.domain) ∧
    a.path = (if cfg.path.isEmpty then none else some cfg.path) ∧
    a.secure = cfg.secure ∧ a.sameSite = cfg.sameSite ∧
    a.expires = (if cfg.expires ≠ 0 then some cfg.expires else none) ∧ a.maxAge = cfg.maxAge := by
  intro a
  rw [show a = _ from write_attrs (St.init cfg)]
  exact ⟨rfl, rfl, rfl, Bool.or_false _, Option.or_none, rfl, Option.or_none⟩

example : Destroyed (destroy (St.init ⟨3600, some 60, [], "/".toList, true, none⟩)) :=
  destroy_destroyed _ (.inl rfl)

example : Poor.Base64.decode (Poor.Base64.encode [1, 2, 3, 4, 255]) = some [1, 2, 3, 4, 255] :=
  Poor.Base64.decode_encode _
example : Poor.Base64.encode [104, 105] = "aGk=".toList := by decide

end Poor.Props.C13
