import PoorModel.Headers
import PoorProofs.Lemmas.Transcode
/-
C14 - headers behave as an ordered, case-insensitive multimap with safe transcoding.

Every list of pairs is a reachable state of the collection (the constructor accepts any
pairs), so a per-operation theorem quantified over all states holds after every
operation sequence.
-/
namespace Poor.Props.C14
open Poor Poor.Headers

/-- the specification: an ordered multimap keyed by the case-normalised name -/
abbrev Spec := List (Str × Str)

/-- the abstraction function: the multimap a header list stands for -/
def abs (h : Hs) : Spec := h.map fun kv => (lower kv.1, kv.2)

def Spec.get (s : Spec) (k : Str) : Option Str := (s.find? fun e => e.1 == k).map (·.2)
def Spec.getAll (s : Spec) (k : Str) : List Str := (s.filter fun e => e.1 == k).map (·.2)
def Spec.del (s : Spec) (k : Str) : Spec := s.filter fun e => !(e.1 == k)

theorem getItem_abs (h : Hs) (n : Str) : getItem h n = (abs h).get (key n) := by
  simp [getItem, abs, Spec.get, List.find?_map, Function.comp_def]

theorem getAll_abs (h : Hs) (n : Str) : getAll h n = (abs h).getAll (key n) := by
  simp [getAll, abs, Spec.getAll, List.filter_map, Function.comp_def]

theorem abs_delItem (h : Hs) (n : Str) : abs (delItem h n) = (abs h).del (key n) := by
  simp [delItem, abs, Spec.del, List.filter_map, Function.comp_def]

theorem abs_append (h : Hs) (e : Str × Str) : abs (h ++ [e]) = abs h ++ [(lower e.1, e.2)] := by
  simp [abs]

theorem abs_addHeader (h h' : Hs) (n : Str) (v : Option Str) (ps : List (Str × Option Str))
    (hok : addHeader h n v ps = .ok h') :
    ∃ rendered, h' = h ++ [(iso n, rendered)] ∧ abs h' = abs h ++ [(key n, rendered)] := by
  unfold addHeader at hok
  simp only at hok
  split at hok
  · cases hok
  · cases hok
    exact ⟨_, rfl, by rw [abs_append]; rfl⟩

theorem addHeader_plain (h : Hs) (n v : Str) : addHeader h n (some v) [] = .ok (h ++ [(iso n, iso v)]) := by
  simp [addHeader, List.intercalate]

theorem setItem_eq (h : Hs) (n v : Str) : setItem h n v = .ok (delItem h n ++ [(iso n, iso v)]) :=
  addHeader_plain _ n v

theorem abs_setItem (h : Hs) (n v : Str) :
    ∃ h', setItem h n v = .ok h' ∧ abs h' = (abs h).del (key n) ++ [(key n, iso v)] :=
  ⟨_, setItem_eq h n v, by rw [abs_append, abs_delItem]; rfl⟩

/-- `add` succeeds exactly when the name is Set-Cookie (any casing) or not yet present -/
theorem abs_add (h : Hs) (n v : Str) :
    (key n = setCookieKey ∨ (abs h).get (key n) = none →
        add h n v = .ok (h ++ [(iso n, iso v)])) ∧
    (key n ≠ setCookieKey ∧ (abs h).get (key n) ≠ none → add h n v = .error .keyError) := by
  unfold add contains
  rw [getItem_abs]
  constructor
  · rintro (hk | hg)
    · simp [hk, addHeader_plain]
    · simp [hg, addHeader_plain]
  · rintro ⟨hk, hg⟩
    simp [hk, Option.isSome_iff_ne_none.2 hg]

theorem lookup_ignores_case (h : Hs) (n n' : Str) (hk : key n = key n') :
    getItem h n = getItem h n' ∧ getAll h n = getAll h n' ∧ contains h n = contains h n' := by
  simp [getItem, getAll, contains, hk]

theorem key_iso (n : Str) : lower (iso n) = key n := rfl

theorem getAll_append (h h' : Hs) (m : Str) : getAll (h ++ h') m = getAll h m ++ getAll h' m := by
  simp [getAll]

theorem getAll_delItem (h : Hs) (n m : Str) :
    getAll (delItem h n) m = if key m = key n then [] else getAll h m := by
  simp only [getAll, delItem, List.filter_filter]
  split
  · rename_i hm; simp [hm]
  · rename_i hm
    congr 1
    apply List.filter_congr
    intro kv _
    by_cases hkv : lower kv.1 = key m
    · simp [hkv, hm]
    · simp [hkv]

theorem set_replaces_all (h : Hs) (n v : Str) :
    ∃ h', setItem h n v = .ok h' ∧ getAll h' n = [iso v] := by
  refine ⟨_, setItem_eq h n v, ?_⟩
  rw [getAll_append, getAll_delItem, if_pos rfl]
  simp [getAll, key_iso]

theorem set_others_untouched (h : Hs) (n v m : Str) (hm : key m ≠ key n) :
    ∃ h', setItem h n v = .ok h' ∧ getAll h' m = getAll h m ∧ delItem h' n = delItem h n := by
  refine ⟨_, setItem_eq h n v, ?_, ?_⟩
  · rw [getAll_append, getAll_delItem, if_neg hm]
    simp [getAll, key_iso, Ne.symm hm]
  · simp [delItem, List.filter_append, List.filter_filter, key_iso]

theorem del_removes_all (h : Hs) (n m : Str) :
    getAll (delItem h n) n = [] ∧ contains (delItem h n) n = false ∧
    (key m ≠ key n → getAll (delItem h n) m = getAll h m) := by
  refine ⟨by rw [getAll_delItem, if_pos rfl], ?_, fun hm => by rw [getAll_delItem, if_neg hm]⟩
  rw [contains, getItem_abs, abs_delItem]
  simp [Spec.get, Spec.del, List.find?_filter]

theorem add_refuses_duplicate (h : Hs) (n v : Str) (hk : key n ≠ setCookieKey)
    (hc : contains h n = true) : add h n v = .error .keyError := by
  simp [add, hk, hc]

theorem add_allows_set_cookie (h : Hs) (n v : Str) (hk : key n = setCookieKey) :
    add h n v = .ok (h ++ [(iso n, iso v)]) := by
  simp [add, hk, addHeader_plain]

/-- iteration follows insertion order: every successful insertion appends at the end and
    leaves the earlier entries, and their order, as they were -/
theorem iteration_is_insertion_order (h h' : Hs) (n : Str) (v : Option Str)
    (ps : List (Str × Option Str)) (hok : addHeader h n v ps = .ok h') :
    ∃ e, h' = h ++ [e] := by
  obtain ⟨r, hr, _⟩ := abs_addHeader h h' n v ps hok
  exact ⟨_, hr⟩

/-- the latin-1 bytes a server puts on the wire are the UTF-8 encoding of the text supplied;
    in particular every stored code point is below 256 -/
theorem C14_transcode_bytes (s : Str) : latin1enc (iso s) = some (utf8enc s) :=
  latin1enc_latin1dec _

/-- decoding returns the original text -/
theorem C14_transcode_roundtrip (s : Str) : utf8 (iso s) = s := utf8_iso s

def C14_full : Prop :=
  (∀ h n n', key n = key n' → getItem h n = getItem h n' ∧ getAll h n = getAll h n') ∧
  (∀ h n v, ∃ h', setItem h n v = .ok h' ∧ getAll h' n = [iso v]) ∧
  (∀ h n v m, key m ≠ key n →
      ∃ h', setItem h n v = .ok h' ∧ getAll h' m = getAll h m ∧ delItem h' n = delItem h n) ∧
  (∀ h n m, getAll (delItem h n) n = [] ∧ (key m ≠ key n → getAll (delItem h n) m = getAll h m)) ∧
  (∀ h n v, key n ≠ setCookieKey → contains h n = true → add h n v = .error .keyError) ∧
  (∀ h n v, key n = setCookieKey → add h n v = .ok (h ++ [(iso n, iso v)])) ∧
  (∀ h h' n v ps, addHeader h n v ps = .ok h' → ∃ e, h' = h ++ [e]) ∧
  (∀ s, latin1enc (iso s) = some (utf8enc s)) ∧
  (∀ s, utf8 (iso s) = s)

theorem C14 : C14_full :=
  ⟨fun h n n' hk => ⟨(lookup_ignores_case h n n' hk).1, (lookup_ignores_case h n n' hk).2.1⟩,
   set_replaces_all, set_others_untouched,
   fun h n m => ⟨(del_removes_all h n m).1, (del_removes_all h n m).2.2⟩,
   add_refuses_duplicate, add_allows_set_cookie, iteration_is_insertion_order,
   C14_transcode_bytes, C14_transcode_roundtrip⟩

/-! non-vacuity: `key` ignores case; `add` refuses a name that is present in another casing; `iso` off ASCII -/
example : key "SET-Cookie".toList = setCookieKey := by decide +kernel
example : (add [("X-A".toList, "1".toList)] "x-a".toList "2".toList matches .error .keyError) = true := by decide +kernel
example : iso "é".toList = "Ã©".toList := by decide

end Poor.Props.C14
