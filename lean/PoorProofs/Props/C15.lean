import PoorProofs.Lemmas.Html
import PoorProofs.Lemmas.Scan
import PoorModel.Gen.Escape
import PoorModel.Gen.Pages
/-
C15 - built-in pages never emit request data as markup.

`Gen.Escape` and `Gen.Pages` are regenerated from results.py on every run; the
obligations below are re-checked against what the source says now.
-/
namespace Poor.Props.C15
open Poor Poor.Html

/-- `html_escape` in the source is the per-character table lookup the model uses -/
theorem escape_is_table_lookup : Gen.Escape.escapeIsTableLookup = true := by decide

theorem escape_table_safe :
    ∀ e ∈ Gen.Escape.table, ∀ d ∈ e.2.toList, Cls.escaped.allows d = true := by decide +kernel

theorem escape_table_covers :
    (Gen.Escape.table.lookup '<').isSome = true ∧ (Gen.Escape.table.lookup '>').isSome = true ∧
    (Gen.Escape.table.lookup '"').isSome = true ∧ (Gen.Escape.table.lookup '\'').isSome = true := by
  decide

/-- **escaped text contains none of `<`, `>`, `"`, `'`**, for every input text -/
theorem escape_safe (s : Str) :
    ∀ d ∈ escapeWith Gen.Escape.table s, Cls.escaped.allows d = true := by
  intro d hd
  unfold escapeWith at hd
  rw [List.mem_flatMap] at hd
  obtain ⟨c, _, hc⟩ := hd
  split at hc
  · rename_i r hr
    exact escape_table_safe _ (List.mem_of_lookup_eq_some hr) d hc
  · rename_i hn
    simp only [List.mem_singleton] at hc
    subst hc
    -- a character the table does not replace is none of the four it covers
    have ne {x : Char} (hx : (Gen.Escape.table.lookup x).isSome = true) : d ≠ x := by
      rintro rfl
      rw [hn] at hx
      cases hx
    obtain ⟨h1, h2, h3, h4⟩ := escape_table_covers
    simp only [Cls.allows, Bool.not_eq_true', Bool.or_eq_false_iff, beq_eq_false_iff_ne]
    exact ⟨⟨⟨ne h1, ne h2⟩, ne h3⟩, ne h4⟩

/-- every built-in page passes the static check in both debug settings: every tainted hole
    is escaped (or token-only) and sits in text, a double-quoted or a single-quoted
    attribute value; loop bodies and both branches of every conditional return the
    tokenizer to the state they started in -/
theorem pages_safe : ∀ p ∈ Gen.Pages.all, post p.2 .data = some .data := by decide +kernel

/-- **C15.** For every built-in page, every debug setting, every content of every hole
    (request-derived holes: any text at all, passed through the escape table; trusted
    holes: any text free of markup characters) and every number of loop iterations, no
    client-controlled character is read inside a tag or changes the tokenizer state. -/
theorem C15 : ∀ p ∈ Gen.Pages.all, ∀ debug xs, Renders debug p.2 xs → inertRun .data xs = some .data :=
  fun p hp _ _ hr => post_sound hr .data .data (pages_safe p hp)

/-- what an escaped hole emits for the request text `raw` is admissible hole content -/
theorem escaped_hole_renders (debug : Bool) (raw : Str) :
    Renders debug (.hole .escaped) (holeRC .escaped (escapeWith Gen.Escape.table raw)) :=
  .hole .escaped _ (escape_safe raw)

/-! non-vacuity: a page with an attribute hole; an unescaped hole is rejected -/
example : post (.seq (.lit "<a href=\"".toList) (.seq (.hole .escaped) (.lit "\">x</a>".toList))) .data = some .data := by decide
example : post (.seq (.lit "<a href=".toList) (.seq (.hole .escaped) (.lit ">x</a>".toList))) .data = none := by decide
example : post (.seq (.lit "<p>".toList) (.hole .rawTainted)) .data = none := by decide
example : inertRun .data (litRC "<p>".toList ++ holeRC .rawTainted "<script>".toList) = none := by decide

end Poor.Props.C15
