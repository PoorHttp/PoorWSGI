import PoorModel.Token
import Std.Data.String.ToNat
/-
C16 - auth tokens are valid for at least one and at most two timeout periods.
-/
namespace Poor.Props.C16
open Poor Poor.Token

/-- the window characterisation: for every timeout `T > 0` and instants `t0 ≤ t1`, a token
    issued at `t0` is accepted at `t1` iff the `T`-aligned windows are equal or adjacent -/
theorem valid_iff (T t0 t1 : Nat) (hT : 0 < T) (h : t0 ≤ t1) :
    valid T t0 t1 = true ↔ window T t1 ≤ window T t0 + 1 := by
  have hw : window T t0 ≤ window T t1 := Nat.div_le_div_right h
  unfold valid accepted issued
  generalize window T t0 = w0 at *
  generalize window T t1 = w1 at *
  simp only [List.contains_cons, List.contains_nil, Bool.or_false, Bool.or_eq_true, beq_iff_eq]
  -- both sides are multiples of `T`, which cancels
  rw [show w0 * T + 2 * T = (w0 + 2) * T from (Nat.add_mul ..).symm,
    show w1 * T + T = (w1 + 1) * T by rw [Nat.add_mul, Nat.one_mul],
    show (w1 + 1) * T + T = (w1 + 2) * T by rw [Nat.add_mul _ 1, Nat.add_mul _ 2, Nat.add_assoc, Nat.two_mul, Nat.one_mul],
    Nat.mul_right_cancel_iff hT, Nat.mul_right_cancel_iff hT]
  omega

theorem window_add (T t k : Nat) (hT : 0 < T) : window T (t + k * (T * tps)) = window T t + k :=
  Nat.add_mul_div_right t k (Nat.mul_pos hT (by decide))

/-- younger than one period: always accepted -/
theorem valid_of_lt (T t0 t1 : Nat) (hT : 0 < T) (h : t0 ≤ t1) (hlt : t1 - t0 < T * tps) :
    valid T t0 t1 = true := by
  rw [valid_iff T t0 t1 hT h, ← window_add T t0 1 hT]
  exact Nat.div_le_div_right (by omega)

/-- two periods old or more: never accepted -/
theorem invalid_of_ge (T t0 t1 : Nat) (hT : 0 < T) (h : t0 ≤ t1) (hge : 2 * (T * tps) ≤ t1 - t0) :
    valid T t0 t1 = false := by
  have h2 : window T t0 + 2 ≤ window T t1 := by
    rw [← window_add T t0 2 hT]
    exact Nat.div_le_div_right (by omega)
  rw [← Bool.not_eq_true, valid_iff T t0 t1 hT h]
  omega

section hash
variable {Tok : Type} [DecidableEq Tok] (H : Str → Tok)

theorem check_same (secret client : Str) (T t0 t1 : Nat) (hT : 0 < T) (hH : Function.Injective H) :
    checkToken H (getToken H secret client (some T) t0) secret client (some T) t1 = valid T t0 t1 := by
  obtain ⟨T', rfl⟩ : ∃ T', T = T' + 1 := ⟨T - 1, by omega⟩
  simp only [checkToken, getToken, effective, valid, accepted, List.any_cons, List.any_nil,
    Bool.or_false, List.contains_cons, List.contains_nil]
  have key : ∀ e e' : Nat, (H (tokenText secret (some e) client) = H (tokenText secret (some e') client)) ↔ e = e' := by
    intro e e'
    constructor
    · intro h
      have := hH h
      simp only [tokenText, List.append_assoc, List.append_cancel_left_eq, List.append_cancel_right_eq] at this
      have h2 : (toString e) = (toString e') := String.toList_inj.mp this
      exact Nat.repr_injective h2
    · rintro rfl; rfl
  simp only [key]
  rfl

/-- **at least one, at most two periods** (any hash that does not collide on these texts) -/
theorem C16_windows (secret client : Str) (T t0 t1 : Nat) (hT : 0 < T) (h : t0 ≤ t1)
    (hH : Function.Injective H) :
    (t1 - t0 < T * tps →
      checkToken H (getToken H secret client (some T) t0) secret client (some T) t1 = true) ∧
    (2 * (T * tps) ≤ t1 - t0 →
      checkToken H (getToken H secret client (some T) t0) secret client (some T) t1 = false) ∧
    (checkToken H (getToken H secret client (some T) t0) secret client (some T) t1 = true
      ↔ window T t1 ≤ window T t0 + 1) := by
  rw [check_same H secret client T t0 t1 hT hH]
  exact ⟨valid_of_lt T t0 t1 hT h, invalid_of_ge T t0 t1 hT h, valid_iff T t0 t1 hT h⟩

/-- no timeout configured (`None`, or `0` as documented): tokens never expire -/
theorem C16_none (secret client : Str) (t0 t1 : Nat) (timeout : Option Nat)
    (h : timeout = none ∨ timeout = some 0) :
    checkToken H (getToken H secret client timeout t0) secret client timeout t1 = true := by
  rcases h with rfl | rfl <;> simp [checkToken, getToken, effective]

/-- acceptance under another secret/client forces the *formatted texts* to coincide -/
theorem C16_separation (secret client secret' client' : Str) (timeout : Option Nat) (t0 t1 : Nat)
    (hH : Function.Injective H)
    (h : checkToken H (getToken H secret client timeout t0) secret' client' timeout t1 = true) :
    ∃ e e', tokenText secret e client = tokenText secret' e' client' := by
  unfold checkToken getToken at h
  cases he : effective timeout with
  | none =>
    rw [he] at h; simp only [decide_eq_true_eq] at h
    exact ⟨none, none, hH h⟩
  | some T =>
    rw [he] at h
    simp only [accepted, List.any_cons, List.any_nil, Bool.or_false, Bool.or_eq_true,
      decide_eq_true_eq] at h
    rcases h with h | h
    · exact ⟨_, _, hH h⟩
    · exact ⟨_, _, hH h⟩

end hash

/-- the full-strength separation claim of the property -/
def C16_separation_full : Prop :=
  ∀ (secret client secret' client' : Str) (T t0 t1 : Nat),
    checkToken (fun x => x) (getToken (fun x => x) secret client (some T) t0)
      secret' client' (some T) t1 = true → secret = secret' ∧ client = client'

/-- ... is FALSE of the code as it stands even for a collision-free hash: the three
    fields are concatenated without delimiters (`"%s%s%s"`), so `("k1", expiry 300)` and
    `("k", expiry 1300)` - or clients `"c"`/`"0c"` - format to the same text.
    Recorded in known_findings.txt (key token-concat-ambiguity). -/
theorem C16_separation_full_false : ¬ C16_separation_full := by
  intro h
  have := h "k1".toList "c".toList "k".toList "c".toList 100 (100 * tps) (1100 * tps) (by decide)
  exact absurd this.1 (by decide)

def C16_full_windows : Prop :=
  ∀ {Tok : Type} [DecidableEq Tok] (H : Str → Tok), Function.Injective H →
  ∀ (secret client : Str) (T t0 t1 : Nat), 0 < T → t0 ≤ t1 →
    (t1 - t0 < T * tps →
      checkToken H (getToken H secret client (some T) t0) secret client (some T) t1 = true) ∧
    (2 * (T * tps) ≤ t1 - t0 →
      checkToken H (getToken H secret client (some T) t0) secret client (some T) t1 = false) ∧
    (checkToken H (getToken H secret client (some T) t0) secret client (some T) t1 = true
      ↔ window T t1 ≤ window T t0 + 1)

theorem C16_partial : C16_full_windows :=
  fun H hH secret client T t0 t1 hT h => C16_windows H secret client T t0 t1 hT h hH

example : valid 300 (1000 * tps) (1299 * tps) = true ∧ valid 300 (1000 * tps) (1600 * tps) = false := by decide

end Poor.Props.C16
