import PoorModel.Sched
import PoorModel.Gen.Shared
/-
C17 - a response depends only on its own request and the configuration.

The scheduling argument is about any transition system whose steps do not write the shared state (`Frame`).
The request model of C01/C03/C04 is an instance; that the source has no such write either is a fact about the
inventory of shared objects and their writers regenerated from it (`Gen.Shared`), evaluated in the last two theorems.
-/
namespace Poor.Props.C17
open Poor Poor.Sched

variable {Sh Loc : Type} (sys : Sys Sh Loc)

theorem solo_succ (sh : Sh) (l : Loc) (n : Nat) :
    solo sys sh l (n + 1) = solo sys sh (sys.step sh l).2 n := rfl

theorem exec1_frame (hf : Frame sys) (sh : Sh) (locs : List Loc) (j : Nat) :
    exec1 sys (sh, locs) j = (sh, locs.modify j fun l => (sys.step sh l).2) := by
  unfold exec1
  cases hj : locs[j]? with
  | none => rw [List.modify_eq_self (by simpa using hj)]
  | some l =>
    -- core states `modify` as a `set` only with a default element at hand
    have : Inhabited Loc := ⟨l⟩
    dsimp only
    rw [hf sh l, List.modify_eq_set, hj]
    rfl

/-- **the scheduling argument.**  If no step writes the shared state, then after *any* schedule
    (any interleaving of the steps of any number of in-flight requests, any history of earlier
    requests) the shared state is what it was and every request is exactly where its solo run
    against that state is after the same number of its own steps. -/
theorem sched_independent (hf : Frame sys) (sh : Sh) (locs : List Loc) (sched : List Nat) :
    (run sys sh locs sched).1 = sh ∧
    ∀ i, (run sys sh locs sched).2[i]? = (locs[i]?).map fun l => solo sys sh l (sched.count i) := by
  induction sched generalizing locs with
  | nil => exact ⟨rfl, fun i => show locs[i]? = _ by cases locs[i]? <;> rfl⟩
  | cons j rest ih =>
    obtain ⟨i1, i2⟩ := ih (locs.modify j fun l => (sys.step sh l).2)
    rw [run, List.foldl_cons, exec1_frame sys hf]
    refine ⟨i1, fun i => ?_⟩
    rw [← run, i2 i, List.getElem?_modify, List.count_cons]
    cases locs[i]? with
    | none => rfl
    | some l => by_cases hij : j = i <;> simp [hij, solo_succ]

/-- **histories and interleavings**: two schedules in which request `i` takes the same number of
    steps leave it in the same state - whatever the other requests are and do, and in whatever
    order the steps are interleaved.  In particular a request that runs to completion gets the
    answer it gets when it is sent alone to the same (fresh) tables. -/
theorem C17_schedule_irrelevant (hf : Frame sys) (sh : Sh) (locs locs' : List Loc) (s s' : List Nat)
    (i i' : Nat) (l : Loc) (hi : locs[i]? = some l) (hi' : locs'[i']? = some l)
    (hc : s.count i = s'.count i') :
    (run sys sh locs s).2[i]? = (run sys sh locs' s').2[i']? := by
  rw [(sched_independent sys hf sh locs s).2 i, (sched_independent sys hf sh locs' s').2 i', hi, hi', hc]

/-- the shared state itself is never changed by serving requests -/
theorem C17_shared_unchanged (hf : Frame sys) (sh : Sh) (locs : List Loc) (sched : List Nat) :
    (run sys sh locs sched).1 = sh := (sched_independent sys hf sh locs sched).1

/-- the frame condition is what the argument rests on: with a single writer the answer of another
    request does depend on the schedule -/
example : ∃ (sys : Sys Nat Nat) (s s' : List Nat),
    (run sys 0 [0, 0] s).2[1]? ≠ (run sys 0 [0, 0] s').2[1]? ∧ s.count 1 = s'.count 1 := by
  refine ⟨⟨fun sh l => (sh + 1, sh)⟩, [0, 1], [1, 0], by decide, by decide⟩

theorem wsgi_frame : Frame wsgiSys := by
  intro app st
  cases st with
  | start => rfl
  | mid p post t r => cases r <;> rfl
  | fin => rfl

/-- two steps of `wsgiSys` are the whole request of the C01 model -/
theorem wsgi_solo (app : Wsgi.App) (p : Wsgi.Prog) (post : Wsgi.AfterProg) (ctor : Option Response.Exc)
    (route : Wsgi.Route) :
    solo wsgiSys app (.start p post ctor route) 2 =
      .fin (Wsgi.run app p post ctor route).1 (Wsgi.run app p post ctor route).2 := by
  simp only [solo, wsgiSys, wsgiStep, Wsgi.run, Wsgi.respond]
  cases h : Wsgi.preAfter app p ctor route with
  | mk t r =>
    cases r with
    | none => rfl
    | some r =>
      simp only [Wsgi.afterAll]
      cases Response.emit app.reasons (Wsgi.runAfter app p post 0 app.nAfter t r).2 <;> rfl

/-- **C17 for the request model**: in any interleaving of any requests against one table set, a
    request that has taken its two steps has produced exactly `Wsgi.run` of itself alone -/
theorem C17_wsgi (app : Wsgi.App) (locs : List Stage) (sched : List Nat) (i : Nat)
    (p : Wsgi.Prog) (post : Wsgi.AfterProg) (ctor : Option Response.Exc) (route : Wsgi.Route)
    (hi : locs[i]? = some (.start p post ctor route)) (hc : sched.count i = 2) :
    (run wsgiSys app locs sched).2[i]? =
      some (.fin (Wsgi.run app p post ctor route).1 (Wsgi.run app p post ctor route).2) := by
  rw [(sched_independent wsgiSys wsgi_frame app locs sched).2 i, hi, hc]
  simp [wsgi_solo]

/-- every shared object that is written anywhere (at import or configuration time) is one of the
    objects the model knows about; containers that are only ever read do not matter -/
theorem shared_inventory_known : ∀ w ∈ Gen.Shared.writes, w.1 ∈ knownShared := by decide +kernel

/-- no syntactic write to a shared object sits in a function that can run while a request is
    served (the functions reachable in the package's call graph from `Application.__call__`,
    regenerated with the inventory): writers run at import or configuration time only -/
theorem no_request_time_writes :
    (Gen.Shared.writes.filter fun w => Gen.Shared.requestReachable.contains w.2.1) = [] := by decide +kernel

end Poor.Props.C17
