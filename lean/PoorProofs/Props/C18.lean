import PoorProofs.Lemmas.HeaderValue
import PoorProofs.Lemmas.Date
import PoorModel.Gen.Patterns
import PoorProofs.Lemmas.Digits
/-
C18 - header values the library renders parse back to the same value.
The part on parameterised values (`KeyOK`, `MainOK`, `parseOne_render`, `parseParam_tail`, `C18_params`) stands at
the end of Lemmas/HeaderValue.lean, because the multipart parser (C08) rests on `C18_params`.
-/
namespace Poor.Props.C18
open Poor Poor.HeaderValue

/-- the range scanner was written for exactly this pattern text (regenerated from headers.py) -/
theorem pattern_pinned : Gen.Patterns.RE_BYTES_RANGE = "(\\d*)-(\\d*),?" := by decide

/-- the three parsers are total functions of their input string (no input makes them fail) -/
theorem C18_total (s : Str) :
    (∃ r, parseHeader s = r) ∧ (∃ r, parseNegotiation s = r) ∧ (∃ r, parseRange s = r) :=
  ⟨⟨_, rfl⟩, ⟨_, rfl⟩, ⟨_, rfl⟩⟩

/-! ### byte-range sets -/

def digitsOf (n : Nat) : Str := (toString n).toList

def renderOpt : Option Nat → Str
  | none => []
  | some n => digitsOf n

/-- a range item as a client writes it, RFC 9110 14.1.1 (`first-last`, `first-`, `-suffix`); the library has the
    parser only -/
def renderItem (r : RangeT) : Str := renderOpt r.1 ++ '-' :: renderOpt r.2

/-- `",".join(items)` -/
def renderItems : List RangeT → Str
  | [] => []
  | [r] => renderItem r
  | r :: rs => renderItem r ++ ',' :: renderItems rs

theorem digitsOf_isDigit (n : Nat) : ∀ c ∈ digitsOf n, isDigit c = true := isDigit_toString n

theorem natOfDigits_digitsOf (n : Nat) : natOfDigits (digitsOf n) = n := natOfDigits_toString n

theorem digitsOf_ne_nil (n : Nat) : digitsOf n ≠ [] := toString_ne_nil n

theorem renderOpt_digits (x : Option Nat) : ∀ c ∈ renderOpt x, isDigit c = true := by
  cases x with
  | none => intro c hc; cases hc
  | some n => exact digitsOf_isDigit n

theorem renderOpt_eq_nil {x : Option Nat} : renderOpt x = [] ↔ x = none := by
  cases x with
  | none => exact ⟨fun _ => rfl, fun _ => rfl⟩
  | some n => exact ⟨fun h => absurd h (digitsOf_ne_nil n), fun h => nomatch h⟩

theorem renderItems_head (rs : List RangeT) : ∀ c, (renderItems rs).head? = some c → c ≠ ',' := by
  intro c hc
  -- the text starts with the first item, and an item with a digit or the dash
  have hitem : ∀ (r : RangeT) rest, (renderItem r ++ rest).head? = some c → c ≠ ',' := fun r rest h => by
    rw [renderItem, List.append_assoc, List.head?_append, Option.or_eq_some_iff] at h
    rcases h with h | ⟨_, h⟩
    · rintro rfl; exact absurd (renderOpt_digits r.1 _ (List.mem_of_head? h)) (by decide)
    · cases h; decide
  fun_induction renderItems rs with
  | case1 => cases hc
  | case2 r => exact hitem r [] (by rwa [List.append_nil])
  | case3 r rs _ _ => exact hitem r _ hc

theorem scan_item (r : RangeT) (rest : Str)
    (hrest : ∀ c, rest.head? = some c → isDigit c = false) :
    scanRanges (renderItem r ++ rest) = (renderOpt r.1, renderOpt r.2) :: scanRanges (afterComma rest) := by
  rw [renderItem, List.append_assoc, List.cons_append]
  exact scanRanges_match (renderOpt_digits r.1) (renderOpt_digits r.2) hrest

theorem scan_items (rs : List RangeT) :
    scanRanges (renderItems rs) = rs.map fun r => (renderOpt r.1, renderOpt r.2) := by
  fun_induction renderItems rs with
  | case1 => rw [scanRanges]; rfl
  | case2 r =>
    rw [← List.append_nil (renderItem r), scan_item r [] (by rintro _ ⟨⟩)]
    simp [afterComma, scanRanges]
  | case3 r rs _ ih =>
    rw [scan_item r _ (by rintro _ ⟨⟩; rfl), afterComma, ih]
    rfl

/-- an item that parses back: not the bare dash, which the parser drops, and no number with more digits than
    CPython's `int` takes -/
def WellFormed (r : RangeT) : Prop :=
  (r.1 ≠ none ∨ r.2 ≠ none) ∧
  (∀ n, r.1 = some n → (digitsOf n).length ≤ INT_MAX_DIGITS) ∧
  (∀ n, r.2 = some n → (digitsOf n).length ≤ INT_MAX_DIGITS)

theorem renderOpt_back (x : Option Nat) :
    (if (renderOpt x).isEmpty then none else some (natOfDigits (renderOpt x))) = x := by
  cases x with
  | none => rfl
  | some n =>
    rw [renderOpt, if_neg (mt List.isEmpty_iff.1 (digitsOf_ne_nil n))]
    exact congrArg some (natOfDigits_digitsOf n)

theorem renderOpt_length {x : Option Nat} {N : Nat} (h : ∀ n, x = some n → (digitsOf n).length ≤ N) :
    (renderOpt x).length ≤ N := by
  cases x with
  | none => exact Nat.zero_le N
  | some n => exact h n rfl

theorem renderItems_no_eq (rs : List RangeT) : (renderItems rs).contains '=' = false := by
  have hitem : ∀ r : RangeT, ∀ c ∈ renderItem r, c ≠ '=' := by
    intro r c hc
    simp only [renderItem, List.mem_append, List.mem_cons] at hc
    rcases hc with h | rfl | h
    · intro e; subst e; exact absurd (renderOpt_digits r.1 _ h) (by decide)
    · decide
    · intro e; subst e; exact absurd (renderOpt_digits r.2 _ h) (by decide)
  have : ∀ c ∈ renderItems rs, c ≠ '=' := by
    fun_induction renderItems rs with
    | case1 => intro c hc; cases hc
    | case2 r => exact hitem r
    | case3 r rs _ ih =>
      intro c hc
      simp only [List.mem_append, List.mem_cons] at hc
      rcases hc with h | rfl | h
      · exact hitem r c h
      · decide
      · exact ih c h
  rw [List.contains_eq_any_beq, List.any_eq_false]
  intro c hc; simpa using fun (e : '=' = c) => this c hc e.symm

/-- **C18 (ranges).** Every syntactically well-formed range set (`first-last`, `first-`,
    `-suffix` items, integers of any size below CPython's digit limit, any unit without `=`)
    parses to exactly the (first, last) pairs written. -/
theorem C18_ranges (unit : Str) (hu : ∀ c ∈ unit, c ≠ '=') (rs : List RangeT)
    (hwf : ∀ r ∈ rs, WellFormed r) :
    parseRange (unit ++ '=' :: renderItems rs) = some (unit, rs) := by
  unfold parseRange splitEq
  have hsplit := List.span_ne_append_cons hu (renderItems rs)
  rw [hsplit.2]
  simp only [renderItems_no_eq, Bool.false_eq_true, if_false, hsplit.1, scan_items]
  rw [List.filter_eq_self.2, if_neg, List.map_map]
  · congr 2
    exact (List.map_congr_left fun r _ => by simp only [Function.comp, renderOpt_back, id]).trans (List.map_id rs)
  -- no number has too many digits
  · rw [Bool.not_eq_true, List.any_eq_false]
    intro p hp
    obtain ⟨r, hr, rfl⟩ := List.mem_map.1 hp
    obtain ⟨_, h1, h2⟩ := hwf r hr
    simpa using ⟨renderOpt_length h1, renderOpt_length h2⟩
  -- no item is the bare dash
  · intro p hp
    obtain ⟨r, hr, rfl⟩ := List.mem_map.1 hp
    simpa [List.isEmpty_iff, renderOpt_eq_nil] using (hwf r hr).1

/-! ### negotiation lists -/

theorem splitQ_cons_none (c : Char) (t : Str) (h : splitQ (c :: t) = none) : splitQ t = none := by
  unfold splitQ at h
  split at h
  · cases h
  · rename_i heq; cases heq; simpa using h
  · rename_i heq; cases heq

theorem splitQ_render (v q : Str) (hv : splitQ v = none) :
    splitQ (v ++ (';' :: 'q' :: '=' :: q)) = some (v, q) := by
  induction v with
  | nil => simp [splitQ]
  | cons c t ih =>
    rw [List.cons_append, splitQ, ih (splitQ_cons_none c t hv)]
    · rfl
    -- `;q=` cannot start at `c`: within `c :: t` it would contradict `hv`, and it does not fit across
    -- the end of `t`
    · rintro r rfl heq
      rcases t with _ | ⟨a, _ | ⟨b, t⟩⟩
      · simp at heq
      · simp at heq
      · simp only [List.cons_append, List.cons.injEq] at heq
        obtain ⟨rfl, rfl, _⟩ := heq
        simp [splitQ] at hv

theorem splitQ_space (v : Str) (hv : splitQ v = none) : splitQ (' ' :: v) = none := by
  rw [splitQ]
  · simp [hv]
  · intro r h; cases h

theorem parseNegoItem_render (v : Str) (q : Option Str) (hv : splitQ v = none)
    (hq : ∀ q', q = some q' → splitQ q' = none) : parseNegoItem (renderNegoItem v q) = (strip v, q) := by
  cases q with
  | none => simp only [renderNegoItem, parseNegoItem, hv]
  | some q => simp only [renderNegoItem, parseNegoItem, splitQ_render v q hv, hq q rfl]

/-- negotiation item `value;q=<q>`: the value and the q text come back (value without `;q=`
    and surrounding space, q text without `;q=`) -/
theorem C18_nego (v q : Str) (hv : splitQ v = none) (hq : splitQ q = none) (hs : strip v = v) :
    parseNegoItem (v ++ (';' :: 'q' :: '=' :: q)) = (v, some q) :=
  (parseNegoItem_render v (some q) hv (by rintro _ ⟨⟩; exact hq)).trans (by rw [hs])

/-- an item that survives a round trip: no comma and no `;q=` inside, no blanks around the value -/
structure NegoOK (x : Str × Option Str) : Prop where
  vcomma : ',' ∉ x.1
  vq : splitQ x.1 = none
  vstrip : strip x.1 = x.1
  qcomma : ∀ q, x.2 = some q → ',' ∉ q
  qq : ∀ q, x.2 = some q → splitQ q = none

theorem split_join (x : Str) (xs : List Str) (h : ∀ y ∈ x :: xs, ',' ∉ y) :
    (joinCommaSpace (x :: xs)).splitOn ',' = x :: xs.map (' ' :: ·) := by
  induction xs generalizing x with
  | nil => exact List.splitOn_eq_singleton (h x (by simp))
  | cons y ys ih =>
    -- the blank of the separator goes to the front of the next piece
    rw [joinCommaSpace, List.splitOn_append_cons_self_of_not_mem (h x (by simp)), List.splitOn_cons_eq_if_modifyHead,
      if_neg (by decide), ih y fun z hz => h z (List.mem_cons_of_mem _ hz)]
    rfl

theorem renderNegoItem_no_comma {x : Str × Option Str} (h : NegoOK x) : ',' ∉ renderNegoItem x.1 x.2 := by
  obtain ⟨v, q⟩ := x
  cases q with
  | none => exact h.vcomma
  | some q => simpa [renderNegoItem] using ⟨h.vcomma, h.qcomma q rfl⟩

/-- one rendered item parses back, with or without the blank that follows a comma -/
theorem nego_item (x : Str × Option Str) (h : NegoOK x) :
    parseNegoItem (renderNegoItem x.1 x.2) = x ∧ parseNegoItem (' ' :: renderNegoItem x.1 x.2) = x := by
  have e : ' ' :: renderNegoItem x.1 x.2 = renderNegoItem (' ' :: x.1) x.2 := by cases x.2 <;> rfl
  rw [e, parseNegoItem_render _ _ h.vq h.qq, parseNegoItem_render _ _ (splitQ_space _ h.vq) h.qq,
    strip_space_cons, h.vstrip]
  exact ⟨rfl, rfl⟩

/-- **C18, negotiation lists**: parsing what `render_negotiation` wrote returns the items, in order -/
theorem C18_nego_list (items : List (Str × Option Str)) (hne : items ≠ []) (hok : ∀ x ∈ items, NegoOK x) :
    parseNegotiation (renderNegotiation items) = items := by
  obtain ⟨x, xs, rfl⟩ := List.exists_cons_of_ne_nil hne
  have hcomma : ∀ y ∈ (x :: xs).map (fun z => renderNegoItem z.1 z.2), ',' ∉ y := fun y hy => by
    obtain ⟨z, hz, rfl⟩ := List.mem_map.1 hy
    exact renderNegoItem_no_comma (hok z hz)
  rw [parseNegotiation, renderNegotiation, List.map_cons, split_join _ _ hcomma, List.map_cons, List.map_map,
    List.map_map, (nego_item x (hok x (by simp))).1]
  congr 1
  exact (List.map_congr_left fun z hz => (nego_item z (hok z (List.mem_cons_of_mem _ hz))).2).trans (List.map_id xs)

/-! ### HTTP dates -/

/-- **C18, HTTP dates at one-second resolution**: for every timestamp from 1970-01-01 00:00:00 to
    9999-12-31 23:59:59, `http_to_time(time_to_http(t)) = t`.  Underneath: CPython's `_ymd2ord` inverts
    `_ord2ymd` on every ordinal (`Poor.Date.ord_roundtrip`), the date is valid, the year has four
    digits, and the canonical text parses back field by field. -/
theorem C18_dates (t : Nat) (h : t < Poor.Date.T_MAX) :
    Poor.Date.httpToTime (Poor.Date.timeToHttp t) = .ok t := by
  rw [Date.timeToHttp, Date.parse_render (Date.civilOf_ok t h), Date.timestampOf_civilOf]

/-- distinct seconds render differently -/
theorem C18_dates_injective (t u : Nat) (ht : t < Poor.Date.T_MAX) (hu : u < Poor.Date.T_MAX)
    (h : Poor.Date.timeToHttp t = Poor.Date.timeToHttp u) : t = u := by
  have h1 := C18_dates t ht
  rw [h, C18_dates u hu] at h1
  exact (Poor.Date.PRes.ok.inj h1).symm

/-- every rendered date has the fixed width of an IMF-fixdate -/
theorem C18_dates_width (t : Nat) (h : t < Poor.Date.T_MAX) : (Poor.Date.timeToHttp t).length = 29 :=
  Date.render_length (Date.civilOf_ok t h)

/-- `_ord2ymd` and `_ymd2ord` are inverse in both directions: the calendar model is a bijection between
    ordinals and dates of the calendar -/
theorem C18_calendar_bijection :
    (∀ ord, 1 ≤ ord → Poor.Date.ymd2ord (Poor.Date.ord2ymd ord).1 (Poor.Date.ord2ymd ord).2.1
        (Poor.Date.ord2ymd ord).2.2 = ord) ∧
    (∀ y m d, Poor.Date.ValidDate y m d → Poor.Date.ord2ymd (Poor.Date.ymd2ord y m d) = (y, m, d)) :=
  ⟨Poor.Date.ord_roundtrip, Poor.Date.ymd_roundtrip⟩

/-- **parsing is sound**: whatever `http_to_time` accepts (canonical shape) is the rendering of the
    second it returns, except possibly for the day name, which is not cross-checked -/
theorem C18_dates_parse_sound (s : Str) (t : Nat) (h : Poor.Date.httpToTime s = .ok t) :
    ∃ w, w < 7 ∧ s = Poor.Date.render (Poor.Date.civilW t w) := by
  obtain ⟨c, ok, hs, ht⟩ := Date.parse_inv h
  refine ⟨c.wday, ok.wday, ?_⟩
  rw [ht, Date.civilW_timestampOf ok, hs]

/-- non-vacuity: the leap day of 2000, and the last second covered -/
example : String.ofList (Poor.Date.timeToHttp 951782400) = "Tue, 29 Feb 2000 00:00:00 GMT" := by decide +kernel
example : String.ofList (Poor.Date.timeToHttp 253402300799) = "Fri, 31 Dec 9999 23:59:59 GMT" := by decide +kernel
example : (253402300799 : Nat) < Poor.Date.T_MAX := by decide

end Poor.Props.C18
