import PoorModel.Route
/-
C19 - registering and removing handlers changes exactly what was asked.

The tables are association lists with python-dict update semantics.  The lemmas are
stated for every table state, so they hold after every call sequence; `lookup2` is the
specification view `(key, method bit) ↦ handler`.

C02, C12 and the route gate of C20 import this file for its first part, up to `select_needs`: the tables and
the dispatcher of `PoorModel.Route` as such.
-/
namespace Poor.Props.C19
open Poor Poor.Route

variable {κ ν : Type} [BEq κ] [LawfulBEq κ]

theorem lookup_map_set (d : List (κ × ν)) (k k' : κ) (v : ν) :
    (d.map fun e => if e.1 == k then (k, v) else e).lookup k' =
      if k' == k then (d.lookup k).map fun _ => v else d.lookup k' := by
  induction d with
  | nil => simp
  | cons e t ih =>
    obtain ⟨a, b⟩ := e
    rw [List.map_cons]
    by_cases he : a = k
    · subst he
      simp only [beq_self_eq_true, if_true, List.lookup_cons, ih]
      split <;> simp [*]
    · simp only [beq_false_of_ne he, Bool.false_eq_true, if_false, List.lookup_cons, ih, beq_false_of_ne (Ne.symm he)]
      by_cases hk : k' = k
      · subst hk; simp [beq_false_of_ne (Ne.symm he)]
      · simp [hk]

theorem dget_isSome (d : List (κ × ν)) (k : κ) : (dget d k).isSome = d.any (fun e => e.1 == k) := by
  unfold dget
  induction d with
  | nil => rfl
  | cons e t ih =>
    rw [List.any_cons, ← ih, List.lookup_cons, BEq.comm (a := e.1)]
    cases k == e.1 <;> rfl

/-- python `d[k] = v`, read back at any key -/
theorem dget_dset (d : List (κ × ν)) (k k' : κ) (v : ν) :
    dget (dset d k v) k' = if k' == k then some v else dget d k' := by
  unfold dset
  rw [← dget_isSome]
  unfold dget
  cases hd : d.lookup k with
  | some x => simp [lookup_map_set, hd]
  | none => by_cases hk : k' = k <;> simp [List.lookup_append, List.lookup_cons, hk, hd, beq_false_of_ne]

/-- python `del d[k]`, read back at any key -/
theorem dget_ddel (d : List (κ × ν)) (k k' : κ) :
    dget (ddel d k) k' = if k' == k then none else dget d k' := by
  unfold ddel dget
  induction d with
  | nil => simp
  | cons e t ih =>
    obtain ⟨a, b⟩ := e
    rw [List.filter_cons, List.lookup_cons]
    by_cases he : a = k
    · subst he
      rw [if_neg (by simp), ih]
      split <;> simp [*]
    · rw [if_pos (by simpa using he), List.lookup_cons, ih]
      by_cases hk : k' = k
      · subst hk; simp [beq_false_of_ne (Ne.symm he)]
      · simp [hk]

theorem dset_get (d : List (κ × ν)) (k : κ) (v : ν) : dget (dset d k v) k = some v := by
  simp [dget_dset]

theorem dset_get_other {d : List (κ × ν)} {k k' : κ} {v : ν} (hk : k' ≠ k) :
    dget (dset d k v) k' = dget d k' := by
  simp [dget_dset, hk]

theorem ddel_get (d : List (κ × ν)) (k : κ) : dget (ddel d k) k = none := by
  simp [dget_ddel]

theorem ddel_get_other {d : List (κ × ν)} {k k' : κ} (hk : k' ≠ k) :
    dget (ddel d k) k' = dget d k' := by
  simp [dget_ddel, hk]

/-- the specification view of a two-level table: `(key, method bit) ↦ value` -/
def lookup2 (d : List (κ × List (Nat × ν))) (k : κ) (b : Nat) : Option ν := (dget d k).bind (dget · b)

theorem foldl_dset_get (bits : List Nat) (inner : List (Nat × ν)) (x : ν) (b : Nat) :
    dget (bits.foldl (fun acc b' => dset acc b' x) inner) b = if b ∈ bits then some x else dget inner b := by
  induction bits generalizing inner with
  | nil => simp
  | cons c cs ih =>
    simp only [List.foldl_cons, ih, List.mem_cons]
    by_cases hb : b ∈ cs
    · simp [hb]
    · by_cases hc : b = c
      · subst hc; simp [hb, dset_get]
      · simp [hb, hc, dset_get_other hc]

/-- registration with a method mask sets exactly the selected method bits of that key -/
theorem fanOut_spec (d : List (κ × List (Nat × ν))) (k : κ) (mask : Nat) (x : ν) (b : Nat) :
    lookup2 (fanOut d k mask x) k b = if b ∈ bitsOf mask then some x else lookup2 d k b := by
  unfold lookup2 fanOut
  simp only [dset_get, Option.bind_some, foldl_dset_get]
  split
  · rfl
  · cases h : dget d k <;> simp [dget]

/-- ... and leaves every other key untouched -/
theorem fanOut_other_key {d : List (κ × List (Nat × ν))} {k k' : κ} {mask : Nat} {x : ν} {b : Nat}
    (hk : k' ≠ k) : lookup2 (fanOut d k mask x) k' b = lookup2 d k' b := by
  unfold lookup2 fanOut
  simp only [dset_get_other hk]

theorem nodup_concat {α : Type} {l : List α} {a : α} (h : l.Nodup) (ha : a ∉ l) : (l ++ [a]).Nodup :=
  List.nodup_append.2 ⟨h, List.nodup_cons.2 ⟨List.not_mem_nil, List.nodup_nil⟩,
    fun _ hx _ hy e => ha (List.mem_singleton.1 hy ▸ e ▸ hx)⟩

/-- the keys of a table in table order, which for the route tables is the order of first registration (`dset_keys`) -/
def keys (d : List (κ × ν)) : List κ := d.map (·.1)

/-- python `d[k] = v` keeps the position of an existing key and appends a new one -/
theorem dset_keys (d : List (κ × ν)) (k : κ) (v : ν) :
    keys (dset d k v) = if k ∈ keys d then keys d else keys d ++ [k] := by
  have hk : d.any (fun e => e.1 == k) = true ↔ k ∈ keys d := by
    simp only [keys, List.any_eq_true, List.mem_map, beq_iff_eq]
  unfold dset
  by_cases h : d.any (fun e => e.1 == k) = true
  · rw [if_pos h, if_pos (hk.mp h), keys, List.map_map]
    apply List.map_congr_left
    intro e _
    simp only [Function.comp]
    split
    · exact (beq_iff_eq.1 ‹_›).symm
    · rfl
  · rw [if_neg h, if_neg (mt hk.mpr h)]
    simp [keys]

theorem fanOut_keys (d : List (κ × List (Nat × ν))) (k : κ) (mask : Nat) (x : ν) :
    keys (fanOut d k mask x) = if k ∈ keys d then keys d else keys d ++ [k] := by
  unfold fanOut
  exact dset_keys _ _ _

/-- a registration keeps the keys distinct, so a table built by registrations never holds a key twice
    (`C02.regAll_nodup`) -/
theorem fanOut_nodup (d : List (κ × List (Nat × ν))) (k : κ) (mask : Nat) (x : ν) (h : (keys d).Nodup) :
    (keys (fanOut d k mask x)).Nodup := by
  rw [fanOut_keys]
  split
  · exact h
  · exact nodup_concat h ‹_›

theorem lookup2_at (pre post : List (κ × List (Nat × ν))) (k : κ) (inner : List (Nat × ν)) (b : Nat)
    (h : (keys (pre ++ (k, inner) :: post)).Nodup) : lookup2 (pre ++ (k, inner) :: post) k b = dget inner b := by
  rw [keys, List.map_append, List.nodup_append] at h
  have hn : pre.lookup k = none :=
    List.lookup_eq_none_iff.mpr fun p hp => bne_iff_ne.mpr (h.2.2 _ (List.mem_map_of_mem hp) _ List.mem_cons_self).symm
  simp [lookup2, dget, List.lookup_append, hn]

theorem selectRegex_is_pattern {bit : Nat} {path : Str} {l : List (Str × List (Nat × RH))} {s : Sel}
    (h : selectRegex bit path l = .ok (some s)) : ∃ fn args names rule, s = .pattern fn args names rule := by
  induction l with
  | nil => simp [selectRegex] at h
  | cons e rest ih =>
    obtain ⟨pat, inner⟩ := e
    simp only [selectRegex] at h
    split at h
    · cases h
    · exact ih h
    · split at h
      · exact ih h
      · split at h <;> (cases h; exact ⟨_, _, _, _, rfl⟩)

/-- what an answer of `handler_from_table` presupposes -/
def Needs (r : Reg) (env : Env) (bit : Nat) (path : Str) : Sel → Prop
  | .static fn => lookup2 r.handlers path bit = some fn
  | .file => env.docRoot = true ∧ env.fsFile = true ∧ (bit &&& (Gen.State.METHOD_HEAD ||| Gen.State.METHOD_GET)) ≠ 0
  | .dirIndex => env.docRoot = true ∧ env.index = true ∧ env.fsDir = true
  | .debugInfo => env.debug = true
  | _ => True

/-- the one case analysis of `select`: whatever it answers, the conditions of that answer held.  `C20_route`,
    `C12_gate` and `popRoute_not_selected` are read off it by rewriting with the answer in question. -/
theorem select_needs (r : Reg) (env : Env) (bit : Nat) (path : Str) :
    Needs r env bit path (select r env bit path) := by
  unfold select
  cases h1 : dget r.handlers path with
  | some inner => cases h2 : dget inner bit <;> simp [Needs, lookup2, h1, h2]
  | none =>
    dsimp only
    rcases h2 : selectRegex bit path r.rhandlers with ⟨⟨⟩⟩ | _ | s
    · trivial
    · have dflt : Needs r env bit path (selectDefault r bit) := by
        unfold selectDefault; cases dget r.dhandlers bit <;> trivial
      have dbg {q : Bool} (h : (env.debug && q) = true) : env.debug = true := (Bool.and_eq_true_iff.mp h).1
      dsimp only
      refine iteInduction (fun hA => ?_) fun _ => iteInduction dbg fun _ => dflt
      have ⟨hr, hb⟩ := Bool.and_eq_true_iff.mp hA
      refine iteInduction (fun _ => iteInduction dbg fun _ => dflt) fun _ =>
        iteInduction (fun hf => ⟨hr, hf, by simpa using hb⟩) fun _ =>
        iteInduction (fun hi => ⟨hr, Bool.and_eq_true_iff.mp hi⟩) fun _ => trivial
    · obtain ⟨_, _, _, _, rfl⟩ := selectRegex_is_pattern h2
      trivial

/-- a successful removal removes exactly `(k, bit)`: afterwards it is absent ... -/
theorem popInner_spec (d d' : List (κ × List (Nat × ν))) (k : κ) (bit : Nat) (drop : Bool)
    (h : popInner d k bit drop = .ok d') :
    lookup2 d' k bit = none ∧
    (∀ b, b ≠ bit → lookup2 d' k b = lookup2 d k b) ∧
    (∀ k' b, k' ≠ k → lookup2 d' k' b = lookup2 d k' b) := by
  unfold popInner at h
  cases hd : dget d k with
  | none => simp [hd] at h
  | some inner =>
    cases hany : inner.any (fun e => e.1 == bit) with
    | false => simp [hd, hany] at h
    | true =>
      simp only [hd, hany, Option.getD_some, Option.isSome_some, Bool.not_true, Bool.false_eq_true, if_false,
        if_true] at h
      split at h <;> cases h
      · -- the entry is dropped when its inner table has become empty: it held nothing but `bit`
        rename_i hempty
        have hie : ddel inner bit = [] := List.isEmpty_iff.mp (Bool.and_eq_true_iff.mp hempty).1
        refine ⟨by simp [lookup2, ddel_get], ?_, ?_⟩
        · intro b hb
          simp only [lookup2, ddel_get, hd, Option.bind_none, Option.bind_some]
          rw [← ddel_get_other (d := inner) hb, hie]
          rfl
        · intro k' b hk'
          simp only [lookup2, ddel_get_other hk']
      · refine ⟨by simp [lookup2, dset_get, ddel_get], ?_, ?_⟩
        · intro b hb
          simp [lookup2, dset_get, hd, ddel_get_other hb]
        · intro k' b hk'
          simp only [lookup2, dset_get_other hk']

/-- ... and removing something absent raises KeyError and changes nothing -/
theorem popInner_absent (d : List (κ × List (Nat × ν))) (k : κ) (bit : Nat) (drop : Bool)
    (h : lookup2 d k bit = none) : popInner d k bit drop = .error .keyError := by
  unfold popInner
  have : ((dget d k).getD []).any (fun e => e.1 == bit) = false := by
    rw [← dget_isSome]
    unfold lookup2 at h
    cases hd : dget d k with
    | none => rfl
    | some inner => simpa [hd] using h
  simp [this]

/-- hooks: a hook cannot be registered twice; removing an unregistered hook raises -/
theorem addHook_spec (l : List Nat) (f : Nat) :
    (f ∈ l → addHook l f = .error .valueError) ∧ (f ∉ l → addHook l f = .ok (l ++ [f])) := by
  unfold addHook
  constructor <;> intro h <;> simp [h]

theorem popHook_spec (l : List Nat) (f : Nat) :
    (f ∉ l → popHook l f = .error .valueError) ∧ (f ∈ l → popHook l f = .ok (l.erase f)) := by
  unfold popHook
  constructor <;> intro h <;> simp [h]

theorem addHook_nodup {l l' : List Nat} {f : Nat} (h : l.Nodup) (ha : addHook l f = .ok l') : l'.Nodup := by
  unfold addHook at ha
  split at ha <;> cases ha
  rename_i hf
  exact nodup_concat h (by simpa using hf)

theorem popHook_nodup {l l' : List Nat} {f : Nat} (h : l.Nodup) (hp : popHook l f = .ok l') : l'.Nodup := by
  unfold popHook at hp
  split at hp <;> cases hp
  exact h.erase f

/-- after any sequence of add/pop calls a hook list has no duplicates -/
theorem hooks_no_duplicates (ops : List (Bool × Nat)) :
    ∀ l : List Nat, l.Nodup →
      (ops.foldl (fun acc (op : Bool × Nat) =>
        match (if op.1 then addHook acc op.2 else popHook acc op.2) with
        | .ok l' => l'
        | .error _ => acc) l).Nodup := by
  intro l h
  refine List.foldlRecOn ops _ h fun acc h op _ => ?_
  split
  · rename_i heq
    split at heq
    · exact addHook_nodup h heq
    · exact popHook_nodup h heq
  · exact h

/-- something removed is no longer dispatched: after `pop_route(path, bit)` the static
    table no longer selects a handler for that path and method -/
theorem popRoute_not_selected (r r' : Reg) (uri : Str) (bit : Nat) (hg : hasGroup uri = false)
    (h : popRoute r uri bit = .ok r') (env : Env) : ∀ fn, select r' env bit uri ≠ .static fn := by
  unfold popRoute at h
  simp only [hg, Bool.false_eq_true, if_false] at h
  cases hp : popInner r.handlers uri bit true with
  | error e => simp [hp, Except.map] at h
  | ok t =>
    simp only [hp, Except.map, Except.ok.injEq] at h
    subst h
    intro fn hsel
    have := select_needs { r with handlers := t } env bit uri
    rw [hsel, Needs, (popInner_spec r.handlers t uri bit true hp).1] at this
    cases this

/-- registering a default handler touches nothing but the default table -/
theorem setDefault_only_defaults (r : Reg) (fn mask : Nat) :
    (setDefault r fn mask).handlers = r.handlers ∧ (setDefault r fn mask).rhandlers = r.rhandlers ∧
    (setDefault r fn mask).shandlers = r.shandlers ∧ (setDefault r fn mask).ehandlers = r.ehandlers ∧
    (setDefault r fn mask).before = r.before ∧ (setDefault r fn mask).after = r.after ∧
    (setDefault r fn mask).filters = r.filters := ⟨rfl, rfl, rfl, rfl, rfl, rfl, rfl⟩

/-- non-vacuity of the table specifications: register for GET and POST, remove POST -/
example : lookup2 (fanOut ([] : List (Str × List (Nat × Nat))) "/a".toList 6 7) "/a".toList 4 = some 7 := by decide

example : (popInner (fanOut ([] : List (Str × List (Nat × Nat))) "/a".toList 6 7) "/a".toList 4 true).toOption.map
    (fun d => (lookup2 d "/a".toList 4, lookup2 d "/a".toList 2)) = some (none, some 7) := by decide

end Poor.Props.C19
