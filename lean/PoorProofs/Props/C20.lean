import PoorProofs.Lemmas.Html
import PoorModel.Gen.Pages
import PoorModel.Debug
/-
C20 - diagnostic detail is disclosed only when debug is on.
(The dispatcher gate for /debug-info is a fact about route selection: `C02.C20_route`.)
-/
namespace Poor.Props.C20
open Poor Poor.Html Poor.Debug

/-- the environment override takes precedence over the application attribute -/
theorem debug_precedence (attr : Bool) :
    effectiveDebug none attr = attr ∧
    effectiveDebug (some []) attr = attr ∧
    (∀ v, v ≠ [] → effectiveDebug (some v) attr = (lowerAscii v == "on".toList)) := by
  refine ⟨rfl, rfl, ?_⟩
  intro v hv
  cases v with
  | nil => exact absurd rfl hv
  | cons c rest => rfl

/-- On / on / ON switch debug on, Off / off / anything else switch it off - whatever the attribute -/
theorem debug_override_cases (attr : Bool) :
    effectiveDebug (some "On".toList) attr = true ∧ effectiveDebug (some "on".toList) attr = true ∧
    effectiveDebug (some "ON".toList) attr = true ∧ effectiveDebug (some "Off".toList) attr = false ∧
    effectiveDebug (some "off".toList) attr = false ∧ effectiveDebug (some "yes".toList) attr = false := by
  cases attr <;> decide

/-- static check over the generated templates: with debug off no page that is served
    regardless of the debug setting can reach a diagnostic hole -/
theorem pages_diag_free : ∀ p ∈ Gen.Pages.ungated, diagFreeOff p.2 = true := by decide +kernel

/-- **C20 (pages).** With debug off, no rendering of any ungated built-in page (400, 401,
    403, 404, 405, 500, 501, directory listing) contains a character from a diagnostic
    hole: exception type/message/traceback, handler internals, server software. -/
theorem C20_pages : ∀ p ∈ Gen.Pages.ungated, ∀ xs, Renders false p.2 xs → ∀ r ∈ xs, r.diag = false :=
  fun p hp _ hr => diagFree_sound hr (pages_diag_free p hp)

/-- non-vacuity: the 500 page does contain diagnostic holes when debug is on -/
example : diagFreeOff (.ifDebug (.hole .diagnostic) .empty) = true ∧
          diagFreeOff (.seq (.hole .diagnostic) .empty) = false := by decide

end Poor.Props.C20
