import PoorProofs.Lemmas.JsonAny
import PoorProofs.Lemmas.Transcode
/-
The JSON codec at the byte level, as the three call sites use it:
  response.py:447   `dumps(data_)`, sent as UTF-8                      (C05)
  request.py:909    `json_loads(raw.decode(charset))`                  (C10)
  session.py:247/273 `dumps(self.data)` ... `loads(...)`               (C13)
-/
namespace Poor.Props.JsonCodec
open Poor Poor.Json Poor.Headers

/-- **every spelling of a value is read back to it**: for every JSON text `s` of `v` (`Txt v s`: any white space
    between the tokens, strings written with raw characters, short escapes or `\uXXXX` of either case, surrogate
    pairs, repeated keys) surrounded by white space, the UTF-8 bytes parse to `v` -/
theorem loadBytes_any_spelling {v : J} {s : Str} (h : Txt v s) (w1 w2 : Str) (h1 : AllWs w1) (h2 : AllWs w2) :
    loadBytes (utf8enc (w1 ++ (s ++ w2))) = some v := by
  unfold loadBytes
  rw [Poor.Headers.utf8dec_utf8enc]
  exact loads_txt h w1 w2 h1 h2

/-- **the JSON round trip, for every well-formed value** (any nesting, any size): the bytes written for `v`
    parse back to `v`.  `JOk v`: no float (not modelled), integers of at most 4300 digits, strings of Unicode
    code points without a high surrogate directly followed by a low one, distinct keys within one object. -/
theorem loadBytes_dumpBytes (v : J) (h : JOk v) : loadBytes (dumpBytes v) = some v := by
  simpa [dumpBytes] using loadBytes_any_spelling (Txt_dump v h) [] [] allWs_nil allWs_nil

/-- `ensure_ascii=True`: the text written is pure ASCII whatever the value holds - lone surrogates, which
    UTF-8 cannot encode, included (with `ensure_ascii=False` the encoding of such a value raises) -/
theorem dumpBytes_ascii (v : J) : ∀ c ∈ dump v, c.toNat < 128 := dump_ascii v

/-- **why `NoPair` is a hypothesis**: the two code points U+D800 U+DC00 in one Python `str` are written as
    `"\ud800\udc00"` and read back as the single character U+10000 - `json.loads(json.dumps(s)) != s` in
    CPython itself (checked against the real module by the C05 correspondence). -/
theorem surrogate_pair_merged : scanStr (tailText [0xD800, 0xDC00] []) [] = .ok [0x10000] [] :=
  scanStr_enc (.cons (.pair 0xD800 0xDC00 'd' '8' '0' '0' 'd' 'c' '0' '0' (by decide) (by decide) (by decide) (by decide))
    .nil) [] [] trivial

/-- non-vacuity: a nested value with an escape of every kind satisfies `JOk` -/
example : JOk (.obj [([0x6B], .arr [.int (-12), .str [0x22, 0xE9, 0x1F600, 0xD800], .null, .bool true, .obj []])]) := by
  simp only [JOk, MOk, JOks, StrOK, NoPair]
  decide

end Poor.Props.JsonCodec
