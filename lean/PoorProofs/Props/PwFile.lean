import PoorModel.PwFile
import PoorProofs.Lemmas.Scan
/-
C11 - the user table kept in a password file: what is written is what is loaded.

`split(':')` and the line iteration both carry the text read so far in an accumulator.  A stretch that holds
none of the characters the scanner looks for goes into the accumulator whole (`splitGo_append`,
`linesGo_append`); what is left is one step per separator and per line end.
-/
namespace Poor.PwFile

theorem splitGo_append (a : Str) (h : ':' ∉ a) (cur rest : Str) :
    splitGo cur (a ++ rest) = splitGo (a.reverse ++ cur) rest := by
  induction a generalizing cur with
  | nil => rfl
  | cons c a ih =>
    obtain ⟨hc, ha⟩ := not_or.1 (mt List.mem_cons.2 h)
    rw [List.cons_append, splitGo, if_neg (Ne.symm hc), ih ha]
    simp

/-- a field: no separator and no line end in it -/
def FieldOK (s : Str) : Prop := ':' ∉ s ∧ '\r' ∉ s ∧ '\n' ∉ s

theorem splitColon_line (e : Entry) (hu : ':' ∉ e.user) (hr : ':' ∉ e.realm) (hd : ':' ∉ e.digest) :
    splitColon (lineText e) = [e.user, e.realm, e.digest] := by
  have h := splitGo_append e.digest hd [] []
  rw [List.append_nil] at h
  simp [splitColon, lineText, splitGo_append _ hu, splitGo_append _ hr, splitGo, h]

/-- an entry that survives the file: no separator or line end inside a field, and the line as a whole neither
    starts nor ends with white space (`strip` would eat it) -/
structure EntryOK (e : Entry) : Prop where
  user : FieldOK e.user
  realm : FieldOK e.realm
  digest : FieldOK e.digest
  first : ∀ c, (lineText e).head? = some c → isSpace c = false
  last : ∀ c, (lineText e).getLast? = some c → isSpace c = false

theorem lineText_ne (e : Entry) : lineText e ≠ [] := by
  unfold lineText; simp

theorem lineText_noeol {e : Entry} (h : EntryOK e) : '\r' ∉ lineText e ∧ '\n' ∉ lineText e := by
  unfold lineText
  have ⟨_, u1, u2⟩ := h.user
  have ⟨_, r1, r2⟩ := h.realm
  have ⟨_, d1, d2⟩ := h.digest
  constructor <;> simp [*]

theorem parseLine_line {e : Entry} (h : EntryOK e) : parseLine (lineText e) = some e := by
  unfold parseLine
  rw [strip, List.strip_eq_self h.first h.last, splitColon_line e h.user.1 h.realm.1 h.digest.1]

/-- the line ends `load` is proved for: what `PasswordMap.write` produces on either platform -/
def IsEol (eol : Str) : Prop := eol = ['\n'] ∨ eol = ['\r', '\n']

theorem linesGo_other (cur rest : Str) (c : Char) (h1 : c ≠ '\r') (h2 : c ≠ '\n') :
    linesGo cur (c :: rest) = linesGo (c :: cur) rest := by
  -- the last equation of `linesGo`; its side conditions say that no earlier pattern applies
  rw [linesGo]
  · exact fun _ h _ => h1 h
  · exact h1
  · exact h2

theorem linesGo_append (body : Str) (h1 : '\r' ∉ body) (h2 : '\n' ∉ body) (cur rest : Str) :
    linesGo cur (body ++ rest) = linesGo (body.reverse ++ cur) rest := by
  induction body generalizing cur with
  | nil => rfl
  | cons c a ih =>
    obtain ⟨hc1, ha1⟩ := not_or.1 (mt List.mem_cons.2 h1)
    obtain ⟨hc2, ha2⟩ := not_or.1 (mt List.mem_cons.2 h2)
    rw [List.cons_append, linesGo_other _ _ _ (Ne.symm hc1) (Ne.symm hc2), ih ha1 ha2]
    simp

theorem linesGo_eol {eol : Str} (he : IsEol eol) (cur rest : Str) :
    linesGo cur (eol ++ rest) = cur.reverse :: linesGo [] rest := by
  rcases he with rfl | rfl <;> simp [linesGo]

theorem lines_render {eol : Str} (he : IsEol eol) (es : List Entry) (h : ∀ e ∈ es, EntryOK e) (tail : Str) :
    linesGo [] (render eol es ++ tail) = es.map lineText ++ linesGo [] tail := by
  induction es with
  | nil => rfl
  | cons e es ih =>
    have ⟨n1, n2⟩ := lineText_noeol (h e List.mem_cons_self)
    have : render eol (e :: es) ++ tail = lineText e ++ (eol ++ (render eol es ++ tail)) := by simp [render]
    rw [this, linesGo_append _ n1 n2, linesGo_eol he, ih fun x hx => h x (List.mem_cons_of_mem _ hx)]
    simp

theorem load_render_append {eol : Str} (he : IsEol eol) (es : List Entry) (h : ∀ e ∈ es, EntryOK e) (tail : Str) :
    load (render eol es ++ tail) = (load tail).map (es ++ ·) := by
  rw [load, lines, lines_render he es h, List.mapM_append,
    List.mapM_map_eq_some fun e hx => parseLine_line (h e hx)]
  exact (Option.map_eq_bind ..).symm

theorem load_render_eol {eol : Str} (he : IsEol eol) (es : List Entry) (h : ∀ e ∈ es, EntryOK e) :
    load (render eol es) = some es := by
  simpa [load, lines, linesGo] using load_render_append he es h []

theorem load_line {e : Entry} (h : EntryOK e) : load (lineText e) = some [e] := by
  have ⟨n1, n2⟩ := lineText_noeol h
  have hl := linesGo_append _ n1 n2 [] []
  rw [List.append_nil] at hl
  simp [load, lines, hl, linesGo, lineText_ne e, parseLine_line h]

theorem load_render_noeol_eol {eol : Str} (he : IsEol eol) (es : List Entry) (e : Entry)
    (h : ∀ x ∈ es ++ [e], EntryOK x) : load (render eol es ++ lineText e) = some (es ++ [e]) := by
  rw [load_render_append he es fun x hx => h x (List.mem_append_left _ hx), load_line (h e (by simp))]
  rfl

/-- **write then load** (LF or CRLF line ends): the table read back is the table written, entry by entry. -/
theorem load_render (es : List Entry) (h : ∀ e ∈ es, EntryOK e) :
    load (render ['\n'] es) = some es ∧ load (render ['\r', '\n'] es) = some es :=
  ⟨load_render_eol (.inl rfl) es h, load_render_eol (.inr rfl) es h⟩

/-- **the last line without its line end** (a file written by another tool): nothing is lost, not a character
    of the last user's hash -/
theorem load_render_noeol (es : List Entry) (e : Entry) (h : ∀ x ∈ es ++ [e], EntryOK x) :
    load (render ['\n'] es ++ lineText e) = some (es ++ [e]) :=
  load_render_noeol_eol (.inl rfl) es e h

/-- what `find` answers after loading is what it answers on the table written -/
theorem find_load (es : List Entry) (h : ∀ e ∈ es, EntryOK e) (realm user : Str) :
    (load (render ['\n'] es)).map (fun t => find t realm user) = some (find es realm user) := by
  rw [(load_render es h).1]; rfl

/-- a line with a field too many or too few refuses the whole file (ValueError), it is not skipped -/
example : load "a:r:1\nb:r\n".toList = none ∧ load "a:r:1\n\nb:r:2\n".toList = none ∧
          load "a:r:1\nb:r:2".toList = some [⟨"a".toList, "r".toList, "1".toList⟩, ⟨"b".toList, "r".toList, "2".toList⟩] := by
  decide +kernel

end Poor.PwFile
